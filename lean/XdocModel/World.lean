import XdocModel.Example
/-!
# Model of what survives a `DocTest.run` : the world of a test session  (property C11)

A *world* is everything one run can leave behind for the next:

* `template`       : `directive.DEFAULT_RUNTIME_STATE`, the module-level template every run state
                     is built from (booleans + the REQUIRES set, a mutable object);
* `moduleGlobals`  : `module.__dict__` of the module under test (names only: `name ↦ value id`);
* `docs`           : per `DocTest` object the fields that persist between runs
                     (`logged_stdout`/`logged_evals`, `_unmatched_stdout`, `_skipped_parts`, `exc_info`,
                     `_runstate`, `global_namespace`).

`runCore` is `DocTest.run` for one object. It *receives* exactly the persisted data the code reads
before overwriting it — and that is only `global_namespace` (`test_globals = self.global_namespace`,
never re-created) — every other persisted field is reset at the start of `run`
(doctest_example.py, "Prepare for actual test run"):

    self.logged_evals.clear(); self.logged_stdout.clear(); self._unmatched_stdout = []
    self._skipped_parts = []; self.exc_info = None
    runstate = self._runstate = directive.RuntimeState(default_state)     -- deep copy of the template
    runstate.set_report_style(self.config['reportchoice'].lower())
    …  test_globals.update(self.module.__dict__)                          -- a COPY of the module dict
    …  self.global_namespace.clear()                                      -- only on the common tail

The common tail (`_post_run`, then `clear()`) is reached whenever `run` *returns* except through
the early `return summary` of a failed pre-import; it is not reached when an exception propagates
(`on_error='raise'`, `ValueError('Could not clean traceback')`, `pytest.skip()`).

MODELLING ASSUMPTION (stated, not proved): executing doctest code is the oracle
`sem : doc → NS → part index → part → ExecResult × NS`; its result may depend only on the namespace
it is given (names and the values bound to them) — not on hidden process state and not on objects
shared through those values (mutation of shared mutable module objects is outside the property,
which speaks of rebinding). Python dicts are association lists; values are opaque ids (`Nat`).
`config['global_exec']` is `None` and `BaseException`s raised by doctest code (SystemExit,
KeyboardInterrupt: the session ends) are outside this model; see `Bracket.lean` for those.
-/
namespace Xdoc
open Py

/-- a namespace (`dict` of names): association list, insertion order as in Python -/
abbrev NS := List (String × Nat)

/-- `d[k] = v` -/
def nsSet (k : String) (v : Nat) : NS → NS
  | [] => [(k, v)]
  | (k', v') :: r => if k' == k then (k, v) :: r else (k', v') :: nsSet k v r

/-- `d.get(k)` -/
def nsGet (k : String) (d : NS) : Option Nat := d.lookup k

/-- `d.update(src)` : the entries of `src` are copied into `d`; `src` itself is not aliased -/
def nsUpdate (d src : NS) : NS := src.foldl (fun acc kv => nsSet kv.1 kv.2 acc) d

/-- `directive.DEFAULT_RUNTIME_STATE` as a value -/
structure Template where
  bools : List (String × Bool) := Generated.defaultRuntimeStateBools
  req : List Str := []
  deriving DecidableEq, Repr

/-- `RuntimeState(default_state)` : `copy.deepcopy(DEFAULT_RUNTIME_STATE)`, then
    `.update(copy.deepcopy(default_state))` (405bdaf: the caller's defaults are COPIED, a REQUIRES set
    among them is not shared with the run): boolean defaults, and optionally a REQUIRES set that
    replaces the template's; the inline overlay is empty -/
def RState.ofTemplate (t : Template) (overlay : List (String × Bool)) (reqOverlay : Option (List Str) := none) :
    RState :=
  { gBools := overlay.foldl (fun acc kv => alSet kv.1 kv.2 acc) t.bools, gReq := reqOverlay.getD t.req }

theorem RState.ofTemplate_pristine (overlay : List (String × Bool)) :
    RState.ofTemplate {} overlay = RState.init overlay := rfl

/-- what is fixed for one `DocTest` object: its parts and its configuration -/
structure DocDef where
  parts : List RunPart
  pytestMode : Bool := false
  importOk : Bool := true
  /-- the doctest belongs to a module (`self.module` is set by the pre-import); `false` for
      doctests made from a bare string (`<modname?>`) : nothing is copied into the namespace -/
  hasModule : Bool := true
  /-- `config['default_runtime_state']` (the dict is shared by reference by the runner; every run
      deep-copies it): the boolean entries … -/
  defaults : List (String × Bool) := []
  /-- … and its `REQUIRES` entry, if any (a set given through the API) -/
  defaultsReq : Option (List Str) := none
  /-- `'REPORT_' + config['reportchoice'].upper()` -/
  reportKey : String := "REPORT_UDIFF"
  deriving Repr

/-- the fields of a `DocTest` object that persist from one run to the next -/
structure DocState where
  logged : List (Nat × Str) := []          -- logged_stdout (logged_evals has the same keys)
  unmatched : List Str := []               -- _unmatched_stdout
  skippedParts : List Nat := []            -- _skipped_parts
  excInfo : Option Failure := none         -- exc_info / failed_part / failed_tb_lineno
  runstate : Option RState := none         -- _runstate of the last run (SKIP, REQUIRES, report style …)
  ns : NS := []                            -- global_namespace
  deriving DecidableEq, Repr

structure World where
  template : Template := {}
  moduleGlobals : NS := []
  docs : List DocState := []
  deriving DecidableEq, Repr

/-- what a caller observes of one run: "outcome and captured output" -/
structure Outcome where
  ending : RunEnd
  summary : Summary
  logged : List (Nat × Str)
  failure : Option Failure
  skipped : List Nat
  executed : List Nat
  /-- the directive state the part loop starts from -/
  startRs : RState
  /-- the namespace handed to the first executed part -/
  startEnv : NS
  deriving DecidableEq, Repr

/-- how `run` ends, given how the loop ended (same case analysis as `Xdoc.run`) -/
def endingOf (pytestMode : Bool) (nParts : Nat) (s : RunState NS) : Option RunEnd → RunEnd
  | some e => e
  | none => if s.skipped.length == nParts && pytestMode then .pytestSkip else .returned

/-- is the failure the one recorded by a failed pre-import (early `return summary`) -/
def isImportFailure : Option Failure → Bool
  | some fl => fl.kind == .importError
  | none => false

/-- `global_namespace` after the run. `live` is the dict object as the run leaves it: the module
    names are copied into it only when the pre-import happened (first executed part). -/
def nsAfter (ns : NS) (s : RunState NS) (ending : RunEnd) : NS :=
  let live := if s.didImport then s.env else ns
  match ending with
  | .returned => if isImportFailure s.failure then live else []     -- `self.global_namespace.clear()`
  | _ => live

/-- the run state a run starts from: built from the template and the config, from nothing else -/
def freshRs (t : Template) (d : DocDef) : RState :=
  (RState.ofTemplate t d.defaults d.defaultsReq).setReportStyle d.reportKey

/-- the namespace the executed parts start from -/
def startEnvOf (d : DocDef) (moduleGlobals ns : NS) : NS :=
  if d.hasModule then nsUpdate ns moduleGlobals else ns

def cfgOf (d : DocDef) (oe : OnError) : RunCfg :=
  { onError := oe, importOk := d.importOk, pytestMode := d.pytestMode, defaults := d.defaults }

/-- the state the part loop starts from -/
def startState (d : DocDef) (t : Template) (moduleGlobals ns : NS) : RunState NS :=
  { env := startEnvOf d moduleGlobals ns, rs := freshRs t d }

/-- `DocTest.run(on_error=oe)` for one object. Arguments = everything the run reads:
    the template, the module dict, and of the object's persisted fields ONLY `global_namespace`. -/
def runCore (sat : Str → Option Bool) (sem : NS → Nat → RunPart → ExecResult × NS) (d : DocDef)
    (oe : OnError) (t : Template) (moduleGlobals ns : NS) : DocState × Outcome :=
  let s0 := startState d t moduleGlobals ns
  let r := runLoop sat sem (cfgOf d oe) s0 0 d.parts
  let s := r.1
  let ending := endingOf d.pytestMode d.parts.length s r.2
  ({ logged := s.logged, unmatched := s.unmatched, skippedParts := s.skipped, excInfo := s.failure,
     runstate := some s.rs, ns := nsAfter ns s ending },
   { ending := ending, summary := summaryOf d.parts.length s, logged := s.logged, failure := s.failure,
     skipped := s.skipped, executed := s.executed, startRs := s0.rs, startEnv := s0.env })

/-- the outcome reported for an id that names no doctest (nothing happens) -/
def Outcome.absent : Outcome :=
  { ending := .returned, summary := { passed := false, failed := false, skipped := true }, logged := [],
    failure := none, skipped := [], executed := [], startRs := { gBools := [] }, startEnv := [] }

abbrev Prog := List DocDef
/-- the execution oracle: one per doctest -/
abbrev Sem := Nat → NS → Nat → RunPart → ExecResult × NS

/-- run doctest `i` in world `w`: the template and the module dict are handed over unchanged
    (deep copy / entry-wise copy), only the object's own persisted fields are replaced -/
def runDoc (P : Prog) (sat : Str → Option Bool) (sem : Sem) (w : World) (i : Nat) (oe : OnError) :
    World × Outcome :=
  match P[i]?, w.docs[i]? with
  | some d, some st =>
    let r := runCore sat (sem i) d oe w.template w.moduleGlobals st.ns
    ({ w with docs := w.docs.set i r.1 }, r.2)
  | _, _ => (w, Outcome.absent)

/-- a history: which doctest is run, with which `on_error` -/
abbrev History := List (Nat × OnError)

def execHist (P : Prog) (sat : Str → Option Bool) (sem : Sem) : World → History → World
  | w, [] => w
  | w, (i, oe) :: h => execHist P sat sem (runDoc P sat sem w i oe).1 h

/-- the outcomes along a history -/
def traceHist (P : Prog) (sat : Str → Option Bool) (sem : Sem) : World → History → List Outcome
  | _, [] => []
  | w, (i, oe) :: h =>
    (runDoc P sat sem w i oe).2 :: traceHist P sat sem (runDoc P sat sem w i oe).1 h

/-- a session start: one fresh object per doctest -/
def World.initial (P : Prog) (moduleGlobals : NS) : World :=
  { moduleGlobals := moduleGlobals, docs := P.map fun _ => {} }

/-! ## a concrete instance of the oracle: a mini language of name effects

Used by the driver (`history` op) and by the witnesses. One statement per source line. -/

inductive Stmt where
  | nop                                  -- a comment line, or a statement without effect on names/output
  | bind (n : String) (v : Nat)          -- `n = v`
  | show (n : String)                    -- `print(n)`            NameError when unbound
  | inc (n : String)                     -- `n = n + 1`           NameError when unbound
  | probe (n : String)                   -- `print('n' in globals())`
  | say (v : Nat)                        -- `print(v)`
  | mute                                 -- `sys.stdout = io.StringIO()` : later prints of this part are lost
  | fail                                 -- `raise ValueError('boom')`
  | exit                                 -- `raise ExitTestException()` (through a helper)
  deriving DecidableEq, Repr

def natStrW (n : Nat) : Str := (toString n).toList

def nameErrorLine (n : String) : Str :=
  "NameError: name '".toList ++ n.toList ++ "' is not defined\n".toList

/-- what `print` adds to the captured text: nothing once the part replaced `sys.stdout`
    (the capture is re-installed by `cap.start()` for the next part) -/
def emit (muted : Bool) (out text : Str) : Str := if muted then out else out ++ text

/-- execute the statements of one part; `ln` = 1-based line of the current statement -/
def execStmts (ev : EvalResult) : NS → Str → Bool → Nat → List Stmt → ExecResult × NS
  | ns, out, _, _, [] => (.ok out ev, ns)
  | ns, out, m, ln, st :: rest =>
    match st with
    | .nop => execStmts ev ns out m (ln + 1) rest
    | .bind n v => execStmts ev (nsSet n v ns) out m (ln + 1) rest
    | .show n =>
      (match nsGet n ns with
       | some v => execStmts ev ns (emit m out (natStrW v ++ ['\n'])) m (ln + 1) rest
       | none => (.raised out (nameErrorLine n) (some ln), ns))
    | .inc n =>
      (match nsGet n ns with
       | some v => execStmts ev (nsSet n (v + 1) ns) out m (ln + 1) rest
       | none => (.raised out (nameErrorLine n) (some ln), ns))
    | .probe n =>
      execStmts ev ns (emit m out (if (nsGet n ns).isSome then "True\n".toList else "False\n".toList)) m (ln + 1) rest
    | .say v => execStmts ev ns (emit m out (natStrW v ++ ['\n'])) m (ln + 1) rest
    | .mute => execStmts ev ns out true (ln + 1) rest
    | .fail => (.raised out "ValueError: boom\n".toList (some ln), ns)
    | .exit => (.exit out "xdoctest.exceptions.ExitTestException\n".toList, ns)

/-- the oracle of a mini program: `code[doc][part]` = statements; a part compiled in `eval` mode
    is a call returning `None` -/
def semMini (code : List (List (List Stmt))) : Sem := fun doc ns k p =>
  let stmts := ((code[doc]?.bind (·[k]?)).getD [])
  let ev : EvalResult := if p.part.compileMode == .eval then .value "None".toList else .notEvaled
  execStmts ev ns [] false 1 stmts

end Xdoc
