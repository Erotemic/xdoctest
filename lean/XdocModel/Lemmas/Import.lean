import XdocModel.Import
import XdocModel.Lemmas.Str
/-! Lemmas for C17. The notion they share is `_isvalid` (`isValidUp`): the chain of directories with an
`__init__.py` between a search path entry and a module. Resolution against the interpreter, `split_modpath`
and the round trip name → path → name are all stated with it. -/
namespace Xdoc.Import
open Xdoc Py

def CompOK (c : Comp) : Prop := c ≠ [] ∧ '.' ∉ c ∧ '/' ∉ c ∧ '\\' ∉ c

def NameOK (n : List Comp) : Prop := ∀ c ∈ n, CompOK c

def initName : Comp := ['_', '_', 'i', 'n', 'i', 't', '_', '_']

/-- true of every real file system -/
structure FS.WF (fs : FS) : Prop where
  file_not_dir : ∀ p, fs.isFile p = true → fs.isDir p = false
  parent_dir : ∀ p c, fs.ex (p ++ [c]) = true → fs.isDir p = true

def NoInitDir (fs : FS) : Prop := ∀ p, fs.isDir (p ++ [initPy]) = false

theorem CompOK.ne_nil {c : Comp} (h : CompOK c) : c ≠ [] := h.1
theorem CompOK.no_dot {c : Comp} (h : CompOK c) : '.' ∉ c := h.2.1
theorem CompOK.no_slash {c : Comp} (h : CompOK c) : '/' ∉ c := h.2.2.1
theorem CompOK.no_backslash {c : Comp} (h : CompOK c) : '\\' ∉ c := h.2.2.2

theorem FS.ex_of_isFile {fs : FS} {p : Path} (h : fs.isFile p = true) : fs.ex p = true := by
  simp [FS.ex, h]

theorem FS.ex_of_isDir {fs : FS} {p : Path} (h : fs.isDir p = true) : fs.ex p = true := by
  simp [FS.ex, h]

theorem NoInitDir.ex_eq {fs : FS} (h : NoInitDir fs) (p : Path) :
    fs.ex (p ++ [initPy]) = fs.isFile (p ++ [initPy]) := by
  simp [FS.ex, h p]

theorem isValidUp_snoc (fs : FS) (base : Path) (up : List Comp) (c : Comp) :
    isValidUp fs base (up ++ [c]) = (fs.ex (base ++ [c] ++ [initPy]) && isValidUp fs (base ++ [c]) up) := by
  induction up with
  | nil => simp [isValidUp]
  | cons d u ih =>
    have e : base ++ (d :: (u ++ [c])).reverse = base ++ [c] ++ (d :: u).reverse := by simp
    simp only [List.cons_append, isValidUp, ih, e]
    rw [Bool.and_left_comm]

theorem withExt_cons (c : Comp) {rest : List Comp} (h : rest ≠ []) :
    withExt (c :: rest) = c :: withExt rest := by
  cases rest with
  | nil => exact absurd rfl h
  | cons a as => rfl

theorem withExt_concat (dirs : List Comp) (leaf : Comp) :
    withExt (dirs ++ [leaf]) = dirs ++ [leaf ++ dotPy] := by
  induction dirs with
  | nil => rfl
  | cons d ds ih =>
    rw [List.cons_append, withExt_cons d (by simp), ih, List.cons_append]

theorem withExt_dropLast (n : List Comp) : (withExt n).dropLast = n.dropLast := by
  rcases List.eq_nil_or_concat n with rfl | ⟨ds, l, rfl⟩
  · rfl
  · rw [List.concat_eq_append, withExt_concat, List.dropLast_concat, List.dropLast_concat]

theorem isValid_withExt (fs : FS) (base : Path) (n : List Comp) :
    isValid fs base (withExt n) = isValid fs base n := by
  simp [isValid, withExt_dropLast]

theorem isValid_concat (fs : FS) (base : Path) (dirs : List Comp) (x : Comp) :
    isValid fs base (dirs ++ [x]) = isValidUp fs base dirs.reverse := by
  simp [isValid]

theorem isValid_single (fs : FS) (base : Path) (c : Comp) : isValid fs base [c] = true :=
  isValid_concat fs base [] c

theorem isValid_cons (fs : FS) (base : Path) (c : Comp) {rest : List Comp} (h : rest ≠ []) :
    isValid fs base (c :: rest) = (fs.ex (base ++ [c] ++ [initPy]) && isValid fs (base ++ [c]) rest) := by
  simp only [isValid, List.dropLast_cons_of_ne_nil h, List.reverse_cons, isValidUp_snoc]

theorem isValidUp_iff (fs : FS) (base : Path) (dirs : List Comp) :
    isValidUp fs base dirs.reverse = true ↔
      ∀ pre suf, dirs = pre ++ suf → pre ≠ [] → fs.ex (base ++ pre ++ [initPy]) = true := by
  -- by the recursion of `isValidUp`, which takes the innermost directory first
  rw [← List.reverse_reverse dirs]
  generalize dirs.reverse = up
  rw [List.reverse_reverse]
  induction up with
  | nil => simp [isValidUp]
  | cons d u ih =>
    simp only [isValidUp, Bool.and_eq_true, ih, List.reverse_cons]
    constructor
    · rintro ⟨h1, h2⟩ pre suf he hne
      rcases List.eq_nil_or_concat suf with rfl | ⟨s, y, rfl⟩
      · rw [List.append_nil] at he; rw [← he]; exact h1
      · rw [List.concat_eq_append, ← List.append_assoc] at he
        exact h2 pre s (List.append_inj' he rfl).1 hne
    · intro h
      exact ⟨h _ [] (List.append_nil _).symm (by simp),
        fun pre suf he hne => h pre (suf ++ [d]) (by rw [he, List.append_assoc]) hne⟩

theorem checkDpath_single (fs : FS) (base : Path) (c : Comp) :
    checkDpath fs base [c] = (finderStep fs base c).map Found.path := by
  simp only [checkDpath, isValid_single, withExt, finderStep, Bool.and_true]
  split
  · rfl
  · split <;> rfl

theorem checkDpath_cons (fs : FS) (base : Path) (c : Comp) {rest : List Comp} (h : rest ≠ []) :
    checkDpath fs base (c :: rest) =
      if fs.ex (base ++ [c] ++ [initPy]) then checkDpath fs (base ++ [c]) rest else none := by
  unfold checkDpath
  rw [isValid_withExt, isValid_withExt, isValid_cons fs base c h, withExt_cons c h]
  cases hex : fs.ex (base ++ [c] ++ [initPy]) <;> simp [List.append_assoc]

theorem checkDpath_some {fs : FS} {base : Path} {n : List Comp} {p : Path}
    (h : checkDpath fs base n = some p) :
    (p = base ++ n ∧ fs.ex (base ++ n) = true ∧ fs.isFile (base ++ n ++ [initPy]) = true ∧
        isValid fs base n = true) ∨
    (p = base ++ withExt n ∧ fs.isFile (base ++ withExt n) = true ∧ isValid fs base n = true) := by
  unfold checkDpath at h
  split at h
  · rename_i h1
    simp only [Bool.and_eq_true] at h1
    left
    exact ⟨(Option.some.inj h).symm, h1.1.1, h1.1.2, h1.2⟩
  · split at h
    · rename_i _ h2
      simp only [Bool.and_eq_true, isValid_withExt] at h2
      right
      exact ⟨(Option.some.inj h).symm, h2.1, h2.2⟩
    · cases h

theorem syspathResolve_cons (fs : FS) (b : Path) (bs : List Path) (n : List Comp) :
    syspathResolve fs (b :: bs) n =
      match checkDpath fs b n with
      | some p => some p
      | none => syspathResolve fs bs n := by
  rw [syspathResolve, List.findSome?_cons]; cases checkDpath fs b n <;> rfl

theorem syspathResolve_single (fs : FS) (base : Path) (n : List Comp) :
    syspathResolve fs [base] n = checkDpath fs base n := by
  rw [syspathResolve_cons]
  cases checkDpath fs base n <;> rfl

/-- in a well-formed tree the init file the finder looks for implies the directory it tests first -/
theorem finderStep_of_wf {fs : FS} (hwf : FS.WF fs) (dir : Path) (c : Comp) :
    finderStep fs dir c =
      if fs.isFile (dir ++ [c] ++ [initPy]) then some (.pkg (dir ++ [c]))
      else if fs.isFile (dir ++ [c ++ dotPy]) then some (.mod (dir ++ [c ++ dotPy])) else none := by
  unfold finderStep
  cases hf : fs.isFile (dir ++ [c] ++ [initPy])
  · simp
  · simp [FS.ex_of_isDir (hwf.parent_dir _ _ (FS.ex_of_isFile hf))]

theorem finderStep_isFile {fs : FS} (hwf : FS.WF fs) {dir : Path} {c : Comp} {r : Found}
    (h : finderStep fs dir c = some r) : fs.isFile r.origin = true := by
  rw [finderStep_of_wf hwf] at h
  split at h
  · cases h; assumption
  · split at h
    · cases h; assumption
    · cases h

/-- what the import system does with the finder's answer for the first component — the same for one entry and for several -/
def pyRest (fs : FS) (rest : List Comp) (r : Option Found) : Option Found :=
  match rest with
  | [] => r
  | _ :: _ =>
    match r with
    | some (.pkg d) => pyResolve fs d rest
    | _ => none

theorem pyResolve_cons (fs : FS) (e : Path) (c : Comp) (rest : List Comp) :
    pyResolve fs e (c :: rest) = pyRest fs rest (finderStep fs e c) := by
  cases rest <;> rfl

theorem pyResolvePath_cons (fs : FS) (es : List Path) (c : Comp) (rest : List Comp) :
    pyResolvePath fs es (c :: rest) = pyRest fs rest (es.findSome? fun e => finderStep fs e c) := by
  cases rest <;> rfl

theorem pyRest_none (fs : FS) (rest : List Comp) : pyRest fs rest none = none := by
  cases rest <;> rfl

theorem pyResolve_isFile (fs : FS) (hwf : FS.WF fs) (base : Path) (n : List Comp) (r : Found)
    (h : pyResolve fs base n = some r) : fs.isFile r.origin = true := by
  induction n generalizing base with
  | nil => cases h
  | cons c rest ih =>
    rw [pyResolve_cons] at h
    cases rest with
    | nil => exact finderStep_isFile hwf h
    | cons c' cs =>
      simp only [pyRest] at h
      split at h
      · exact ih _ h
      · cases h

/-- the loop of `split_modpath`, started anywhere, stops at `d` exactly when it started at
    `d/up` for a chain `up` that `_isvalid` accepts, and `d` holds no init -/
theorem walkUp_spec (fs : FS) (revDir rel : List Comp) (d : Path) (rel' : List Comp) :
    walkUp fs revDir rel = .ok (d, rel') ↔
      ∃ up, revDir = up ++ d.reverse ∧ rel' = up.reverse ++ rel ∧ isValidUp fs d up = true ∧
        fs.ex (d ++ [initPy]) = false := by
  -- along the recursion of `walkUp`, which is that of `isValidUp`: at each directory the loop goes on exactly when
  -- the chain can be extended by it (`hrev` turns the reversed directory into `d ++ up.reverse`)
  induction revDir generalizing rel with
  | nil =>
    unfold walkUp
    constructor
    · intro h
      split at h
      · cases h
      · next hex => cases h; exact ⟨[], rfl, rfl, rfl, by simpa using hex⟩
    · rintro ⟨up, hr, rfl, -, hex⟩
      obtain ⟨rfl, hd⟩ : up = [] ∧ d = [] := by simpa using hr.symm
      subst hd
      simp [show fs.ex [initPy] = false by simpa using hex]
  | cons x r ih =>
    have hrev : ∀ up : List Comp, x :: r = up ++ d.reverse → (x :: r).reverse = d ++ up.reverse := by
      intro up h; rw [h]; simp
    unfold walkUp
    split
    · next hex =>
      rw [ih]
      constructor
      · rintro ⟨up, rfl, rfl, hv, hno⟩
        refine ⟨x :: up, rfl, by simp, ?_, hno⟩
        rw [hrev (x :: up) rfl] at hex
        simp only [isValidUp, hex, hv, Bool.and_self]
      · rintro ⟨up', hr, rfl, hv, hno⟩
        cases up' with
        | nil => rw [hrev [] hr] at hex; simp [hno] at hex
        | cons y u =>
          obtain ⟨rfl, rfl⟩ := List.cons.inj hr
          simp only [isValidUp, Bool.and_eq_true] at hv
          exact ⟨u, rfl, by simp, hv.2, hno⟩
    · next hex =>
      constructor
      · intro h; cases h; exact ⟨[], by simp, rfl, rfl, by simpa using hex⟩
      · rintro ⟨up', hr, rfl, hv, hno⟩
        cases up' with
        | nil => rw [hrev [] hr]; simp
        | cons y u =>
          simp only [isValidUp, Bool.and_eq_true] at hv
          rw [hrev (y :: u) hr] at hex
          exact absurd hv.1 hex

/-- `split_modpath` answers with the entry `d` from which `_syspath_modname_to_modpath` accepts `rel`:
    `_isvalid(p, d)` holds and `d` itself is not a package -/
theorem splitModpath_ok_iff (fs : FS) (dir : Path) (f : Comp) (d : Path) (rel : List Comp) :
    splitModpath fs (dir ++ [f]) = .ok (d, rel) ↔
      fs.ex (dir ++ [f]) = true ∧ (fs.isDir (dir ++ [f]) = true → fs.ex (dir ++ [f] ++ [initPy]) = true) ∧
      d ++ rel = dir ++ [f] ∧ rel ≠ [] ∧ isValid fs d rel = true ∧ fs.ex (d ++ [initPy]) = false := by
  have hwalk : walkUp fs dir.reverse [f] = .ok (d, rel) ↔
      d ++ rel = dir ++ [f] ∧ rel ≠ [] ∧ isValid fs d rel = true ∧ fs.ex (d ++ [initPy]) = false := by
    rw [walkUp_spec]
    constructor
    · rintro ⟨up, hr, rfl, hv, hno⟩
      have hdir : dir = d ++ up.reverse := by simpa using List.reverse_eq_append_iff.mp hr
      exact ⟨by simp [hdir], by simp, by simpa [isValid] using hv, hno⟩
    · rintro ⟨heq, hne, hv, hno⟩
      rcases List.eq_nil_or_concat rel with rfl | ⟨ds, g, rfl⟩
      · exact absurd rfl hne
      · rw [List.concat_eq_append, ← List.append_assoc] at heq
        obtain ⟨rfl, hg⟩ := List.append_inj' heq rfl
        obtain rfl : g = f := by simpa using hg
        exact ⟨ds.reverse, by simp, by simp, by simpa [isValid] using hv, hno⟩
  unfold splitModpath
  simp only [Bool.true_and, List.reverse_append, List.reverse_cons, List.reverse_nil,
    List.nil_append, List.singleton_append]
  cases fs.ex (dir ++ [f])
  · simp
  · cases fs.isDir (dir ++ [f])
    · simp [hwalk]
    · cases fs.ex (dir ++ [f] ++ [initPy]) <;> simp [hwalk]

theorem normalize_default_id (fs : FS) (p : Path) (h : p.getLast? ≠ some initPy) :
    normalizeModpath fs p = p := by
  simp [normalizeModpath, h]

theorem normalizeModpath_concat (fs : FS) (p : Path) {f : Comp} (h : f ≠ initPy) :
    normalizeModpath fs (p ++ [f]) = p ++ [f] :=
  normalize_default_id fs _ (by rw [List.getLast?_concat]; exact fun e => h (Option.some.inj e))

/-- `hide_init=False`: the init file of a package directory is shown -/
theorem normalizeModpath_show_init (fs : FS) (p : Path) :
    normalizeModpath fs p false false = if fs.ex (p ++ [initPy]) then p ++ [initPy] else p := by
  unfold normalizeModpath
  cases fs.ex (p ++ [initPy]) <;> rfl

theorem splitLastSlash_noSlash (b : Str) (h : '/' ∉ b) : splitLastSlash b = ([], b) := by
  induction b with
  | nil => rfl
  | cons c s ih =>
    have hc : c ≠ '/' := fun e => h (by simp [e])
    have hs : '/' ∉ s := fun e => h (by simp [e])
    simp [splitLastSlash, ih hs, hc]

theorem splitLastSlash_slash (J : Str) :
    splitLastSlash ('/' :: J) = ('/' :: (splitLastSlash J).1, (splitLastSlash J).2) := by
  rw [splitLastSlash]
  rcases hJ : splitLastSlash J with ⟨x, b⟩
  cases x <;> simp

theorem splitLastSlash_prefix (d J : Str) :
    splitLastSlash (d ++ '/' :: J) = (d ++ '/' :: (splitLastSlash J).1, (splitLastSlash J).2) := by
  induction d with
  | nil => simpa using splitLastSlash_slash J
  | cons c d' ih =>
    simp only [List.cons_append]
    rw [splitLastSlash, ih]
    cases d' <;> simp

theorem splitextStem_prefix (d J : Str) :
    splitextStem (d ++ '/' :: J) = d ++ '/' :: splitextStem J := by
  simp [splitextStem, splitLastSlash_prefix]

theorem beforeLastDot_none (c : Str) (h : '.' ∉ c) : beforeLastDot c = none := by
  induction c with
  | nil => rfl
  | cons a s ih =>
    have ha : a ≠ '.' := fun e => h (by simp [e])
    have hs : '.' ∉ s := fun e => h (by simp [e])
    simp [beforeLastDot, ih hs, ha]

theorem beforeLastDot_ext (c : Str) (h : '.' ∉ c) : beforeLastDot (c ++ dotPy) = some c := by
  induction c with
  | nil => decide
  | cons a s ih =>
    have hs : '.' ∉ s := fun e => h (by simp [e])
    simp [beforeLastDot, ih hs]

theorem stemOfBase_noDot (c : Str) (h : '.' ∉ c) : stemOfBase c = c := by
  have : '.' ∉ c.dropWhile (· == '.') := fun e => h ((List.dropWhile_sublist _).subset e)
  simp [stemOfBase, beforeLastDot_none _ this]

theorem stemOfBase_ext (c : Str) (h : '.' ∉ c) (hne : c ≠ []) : stemOfBase (c ++ dotPy) = c := by
  cases c with
  | nil => exact absurd rfl hne
  | cons a s =>
    have ha : a ≠ '.' := fun e => h (by simp [e])
    have hd : ((a :: s) ++ dotPy).dropWhile (· == '.') = (a :: s) ++ dotPy := by
      simp [ha]
    have ht : ((a :: s) ++ dotPy).takeWhile (· == '.') = [] := by
      simp [ha]
    simp only [stemOfBase, hd, ht, beforeLastDot_ext _ h, List.nil_append]

/-- `Py.joinWith_cons_ne` again under this namespace; with `open Py` the short name means this one -/
theorem joinWith_cons_ne {α : Type} (sep x : List α) {rest : List (List α)} (h : rest ≠ []) :
    joinWith sep (x :: rest) = x ++ sep ++ joinWith sep rest := Py.joinWith_cons_ne sep x h

theorem joinWith_single {α : Type} (sep x : List α) : joinWith sep [x] = x := rfl

theorem splitextStem_joinSlash (dirs : List Comp) (leaf leaf' : Comp)
    (hl : '/' ∉ leaf) (hs : stemOfBase leaf = leaf') :
    splitextStem (joinSlash (dirs ++ [leaf])) = joinSlash (dirs ++ [leaf']) := by
  induction dirs with
  | nil =>
    simp [joinSlash, joinWith_single, splitextStem, splitLastSlash_noSlash _ hl, hs]
  | cons d ds ih =>
    have hne : ds ++ [leaf] ≠ [] := by simp
    have hne' : ds ++ [leaf'] ≠ [] := by simp
    simp only [joinSlash, List.cons_append] at ih ⊢
    rw [joinWith_cons_ne _ _ hne, joinWith_cons_ne _ _ hne']
    simp only [List.append_assoc, List.singleton_append]
    rw [splitextStem_prefix, ih]

theorem map_joinSlash (f : Char → Char) (hf : f '/' = '.') (parts : List Comp)
    (hid : ∀ c ∈ parts, c.map f = c) :
    (joinSlash parts).map f = dotted parts := by
  cases parts with
  | nil => rfl
  | cons p ps =>
    rw [joinSlash, dotted, joinWith_cons, joinWith_cons, List.map_append, hid p (by simp), List.map_flatMap]
    exact congrArg _ (flatMap_congr fun c hc => by
      rw [List.map_append, hid c (List.mem_cons_of_mem _ hc), List.map_singleton, hf])

/-- the string pipeline gives back the dotted name: `a/b/c.py ↦ a.b.c` and `a/b/c ↦ a.b.c` -/
theorem relToModname_joinSlash (dirs : List Comp) (leaf leaf' : Comp)
    (hok : NameOK (dirs ++ [leaf'])) (hl : '/' ∉ leaf) (hs : stemOfBase leaf = leaf') :
    relToModname (joinSlash (dirs ++ [leaf])) = dotted (dirs ++ [leaf']) := by
  unfold relToModname
  rw [splitextStem_joinSlash dirs leaf leaf' hl hs]
  -- no component holds a `.`, so nothing is cut off; only the `/` between them are mapped
  have hnodot : ∀ x ∈ joinSlash (dirs ++ [leaf']), (x != '.') = true := by
    intro x hx
    rcases mem_joinWith hx with h | ⟨c, hc, hxc⟩
    · cases List.mem_singleton.mp h; decide
    · exact bne_iff_ne.mpr fun e => (hok c hc).no_dot (e ▸ hxc)
  have htake : (joinSlash (dirs ++ [leaf'])).takeWhile (· != '.') = joinSlash (dirs ++ [leaf']) := by
    simpa using List.takeWhile_append_of_pos (l₂ := []) hnodot
  rw [htake]
  refine map_joinSlash _ (by decide) _ fun c hc => ?_
  refine (List.map_congr_left fun x hx => ?_).trans (List.map_id c)
  have h1 : x ≠ '/' := fun e => (hok c hc).no_slash (e ▸ hx)
  have h2 : x ≠ '\\' := fun e => (hok c hc).no_backslash (e ▸ hx)
  simp [h1, h2]

theorem CompOK.ne_initPy {c : Comp} (h : CompOK c) : c ≠ initPy :=
  fun e => h.no_dot (e ▸ (by decide : '.' ∈ initPy))

theorem ext_ne_initPy {leaf : Comp} (h : leaf ≠ initName) : leaf ++ dotPy ≠ initPy :=
  fun e => h (List.append_cancel_right (e : leaf ++ dotPy = initName ++ dotPy))

theorem relToModname_pkg {dirs : List Comp} {leaf : Comp} (hok : NameOK (dirs ++ [leaf])) :
    relToModname (joinSlash (dirs ++ [leaf])) = dotted (dirs ++ [leaf]) :=
  have hl : CompOK leaf := hok leaf (by simp)
  relToModname_joinSlash dirs leaf leaf hok hl.no_slash (stemOfBase_noDot leaf hl.no_dot)

theorem relToModname_py {dirs : List Comp} {leaf : Comp} (hok : NameOK (dirs ++ [leaf])) :
    relToModname (joinSlash (dirs ++ [leaf ++ dotPy])) = dotted (dirs ++ [leaf]) :=
  have hl : CompOK leaf := hok leaf (by simp)
  relToModname_joinSlash dirs (leaf ++ dotPy) leaf hok
    (fun hm => (List.mem_append.mp hm).elim hl.no_slash (by decide)) (stemOfBase_ext leaf hl.no_dot hl.ne_nil)

theorem modpathToModname_of_chain (fs : FS) (base : Path) (dirs : List Comp) (f : Comp)
    (hex : fs.ex (base ++ dirs ++ [f]) = true)
    (hdir : fs.isDir (base ++ dirs ++ [f]) = true → fs.ex (base ++ dirs ++ [f] ++ [initPy]) = true)
    (hf : f ≠ initPy)
    (hv : isValidUp fs base dirs.reverse = true) (hb : fs.ex (base ++ [initPy]) = false) :
    modpathToModname fs (base ++ dirs ++ [f]) = .ok (relToModname (joinSlash (dirs ++ [f]))) := by
  have hsplit : splitModpath fs (base ++ dirs ++ [f]) = .ok (base, dirs ++ [f]) :=
    (splitModpath_ok_iff fs _ f base _).mpr
      ⟨hex, hdir, by simp, by simp, (isValid_concat ..).trans hv, hb⟩
  unfold modpathToModname
  rw [normalizeModpath_concat fs _ hf, hsplit]
  simp only [hex, Bool.not_true, Bool.and_false, Bool.false_eq_true, ↓reduceIte]

theorem relpath_append (base r : Path) : relpath (base ++ r) base = r := by
  induction base with
  | nil => cases r <;> simp [relpath]
  | cons b bs ih => simp [relpath, ih]

def wfCheck (files dirs : List Path) : Bool :=
  files.all (fun p => !dirs.contains p) &&
  (files ++ dirs).all (fun p => p.isEmpty || dirs.contains p.dropLast)

theorem wf_ofLists (files dirs : List Path) (h : wfCheck files dirs = true) :
    FS.WF (FS.ofLists files dirs) := by
  simp only [wfCheck, Bool.and_eq_true, List.all_eq_true, Bool.not_eq_eq_eq_not, Bool.not_true,
    Bool.or_eq_true] at h
  constructor
  · intro p hp
    exact h.1 p (by simpa [FS.ofLists] using hp)
  · intro p c hex
    have hmem : p ++ [c] ∈ files ++ dirs := by simpa [FS.ofLists, FS.ex] using hex
    simpa [FS.ofLists] using h.2 _ hmem

def noInitDirCheck (dirs : List Path) : Bool := dirs.all (fun p => p.getLast? != some initPy)

theorem noInitDir_ofLists (files dirs : List Path) (h : noInitDirCheck dirs = true) :
    NoInitDir (FS.ofLists files dirs) := by
  intro p
  simp only [noInitDirCheck, List.all_eq_true] at h
  refine Bool.eq_false_iff.mpr fun hc => ?_
  have := h _ (by simpa [FS.ofLists] using hc)
  simp at this

end Xdoc.Import
