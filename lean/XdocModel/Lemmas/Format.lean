import XdocModel.Format
namespace Xdoc.Format
open Xdoc Py

/-- `want_text` is the join of the want lines — also when there are none (`None` and `[]` give `''`) -/
theorem wantText_eq (p : Part) : wantText p = joinWith ['\n'] (p.wantLines.getD []) := by
  unfold wantText Part.want
  cases p.wantLines with
  | none => rfl
  | some wl => cases wl <;> rfl

theorem addLineNumbersFrom_getElem? (nd c : Nat) (ls : List Str) (i : Nat) :
    (addLineNumbersFrom nd c ls)[i]? = ls[i]?.map (numbered nd (c + i)) := by
  induction ls generalizing c i with
  | nil => simp [addLineNumbersFrom]
  | cons l ls ih =>
    cases i with
    | zero => simp [addLineNumbersFrom]
    | succ i =>
      simp only [addLineNumbersFrom, List.getElem?_cons_succ, ih]
      congr 2; omega

/-- the search from `d` (no smaller exponent fits) with enough fuel stops at the least exponent that fits -/
theorem nDigitsAux_spec (n fuel d : Nat) (hf : n ≤ 10 ^ (d + fuel)) (hd : ∀ d' < d, 10 ^ d' < n) :
    n ≤ 10 ^ nDigitsAux n fuel d (10 ^ d) ∧ ∀ d' < nDigitsAux n fuel d (10 ^ d), 10 ^ d' < n := by
  induction fuel generalizing d with
  | zero => exact ⟨by simpa [nDigitsAux] using hf, by simpa [nDigitsAux] using hd⟩
  | succ f ih =>
    simp only [nDigitsAux]
    split
    · exact ⟨by assumption, hd⟩
    · rw [← Nat.pow_succ]
      refine ih (d + 1) (by rw [show d + 1 + f = d + (f + 1) by omega]; exact hf) fun d' hd' => ?_
      rcases Nat.lt_succ_iff_lt_or_eq.mp hd' with h | rfl
      · exact hd d' h
      · omega

theorem nDigits_spec (n : Nat) :
    max 1 n ≤ 10 ^ nDigits n ∧ ∀ d < nDigits n, 10 ^ d < max 1 n := by
  have := nDigitsAux_spec (max 1 n) (max 1 n) 0
    (by rw [Nat.zero_add]; exact Nat.le_of_lt (Nat.lt_pow_self (by omega))) (by omega)
  rwa [Nat.pow_zero] at this

end Xdoc.Format
