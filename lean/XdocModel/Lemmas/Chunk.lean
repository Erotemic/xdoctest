import XdocModel.Parser
import XdocModel.Lemmas.ExceptFold
/-!
`packageChunk` is re-stated as `packageChunkSpec` — the same computation with the list of cut
points made explicit — and proved equal to it for all inputs. The cut list is strictly increasing,
starts with `0` and its other members are PS1 lines (`packageChunk_ok`); the parts cut there tile the
chunk's source lines (`SrcTiles`, `packageChunk_tiles`).
-/
namespace Xdoc.Parser
open Xdoc Py

theorem mem_insertSorted {x a : Nat} {l : List Nat} : a ∈ insertSorted x l ↔ a = x ∨ a ∈ l := by
  induction l with
  | nil => simp [insertSorted]
  | cons y ys ih =>
    simp only [insertSorted]
    split
    · simp
    · split
      · rename_i h; subst h; simp
      · simp only [List.mem_cons, ih]; exact or_left_comm

/-- three places for `x`: in front of `y`, equal to `y` (dropped), or further right, where it stays above
    `y` and every member of the result is `x` or an old member (`mem_insertSorted`) -/
theorem insertSorted_pairwise {x : Nat} {l : List Nat} (h : l.Pairwise (· < ·)) :
    (insertSorted x l).Pairwise (· < ·) := by
  induction l with
  | nil => simp [insertSorted]
  | cons y ys ih =>
    simp only [insertSorted]
    rw [List.pairwise_cons] at h
    split
    · rename_i hxy
      refine List.pairwise_cons.mpr ⟨?_, List.pairwise_cons.mpr h⟩
      intro a ha
      rcases List.mem_cons.mp ha with rfl | ha
      · exact hxy
      · exact Nat.lt_trans hxy (h.1 a ha)
    · split
      · exact List.pairwise_cons.mpr h
      · refine List.pairwise_cons.mpr ⟨?_, ih h.2⟩
        intro a ha
        rcases mem_insertSorted.mp ha with rfl | ha
        · omega
        · exact h.1 a ha

theorem mem_dedupSorted {a : Nat} {l : List Nat} : a ∈ dedupSorted l ↔ a ∈ l := by
  unfold dedupSorted
  induction l with
  | nil => simp
  | cons y ys ih => simp [List.foldr_cons, mem_insertSorted, ih]

theorem dedupSorted_pairwise_lt (l : List Nat) : (dedupSorted l).Pairwise (· < ·) := by
  unfold dedupSorted
  induction l with
  | nil => simp
  | cons y ys ih => simpa [List.foldr_cons] using insertSorted_pairwise ih

theorem head_of_sorted_mem_zero {l : List Nat} (h : l.Pairwise (· < ·)) (h0 : 0 ∈ l) :
    ∃ r, l = 0 :: r := by
  cases l with
  | nil => simp at h0
  | cons a r =>
    rcases List.mem_cons.mp h0 with h0 | h0
    · exact ⟨r, by rw [← h0]⟩
    · have := (List.pairwise_cons.mp h).1 0 h0; omega

theorem le_getLast_of_sorted {l : List Nat} (h : l.Pairwise (· < ·)) {a m : Nat} (ha : a ∈ l)
    (hm : l.getLast? = some m) : a ≤ m := by
  obtain ⟨ys, rfl⟩ := List.getLast?_eq_some_iff.mp hm
  rcases List.mem_append.mp ha with h' | h'
  · exact Nat.le_of_lt ((List.pairwise_append.mp h).2.2 a h' m (List.mem_singleton.mpr rfl))
  · exact Nat.le_of_eq (List.mem_singleton.mp h')

/-- one step of the directive-break loop of `_package_chunk` -/
def breakStep (execLines : List Str) (acc : List Nat × List (Nat × List Directive)) (p : Nat × Option Nat) :
    Except ParseError (List Nat × List (Nat × List Directive)) :=
  match extractDirectives (sliceFrom execLines p.1 p.2) with
  | .error e => .error e
  | .ok v =>
    match v with
    | [] => .ok acc
    | d :: _ =>
      .ok ((match d.inline, p.2 with
            | true, some s2 => acc.1 ++ [p.1] ++ [s2]
            | _, _ => acc.1 ++ [p.1]), acc.2 ++ [(p.1, v)])

/-- cut points forced by directives: `sorted(set([0] + break_linenos))`, or just `[0]` -/
def breakCuts (breaks : List Nat) : List Nat :=
  match breaks with
  | [] => [0]
  | _ => dedupSorted (0 :: breaks)

/-- the final-expression split adds the last PS1 line as a cut -/
def finalCuts (bs : List Nat) (split : Bool) (ps1s : List Nat) : Except ParseError (List Nat) :=
  if split then
    match ps1s.getLast? with
    | none => .error .index
    | some s2 => if s2 != bs.getLast?.getD 0 then .ok (bs ++ [s2]) else .ok bs
  else .ok bs

def partsOfCuts (mkMid : Nat → Nat → PPart) (mkLast : Nat → PPart) : List Nat → List PPart
  | [] => []
  | [a] => [mkLast a]
  | a :: b :: r => mkMid a b :: partsOfCuts mkMid mkLast (b :: r)

structure ChunkCtx where
  sourceLines : List Str
  wantLines : List Str
  execLines : List Str
  lineno : Nat
  dirMap : List (Nat × List Directive)
  modeHint : CompileMode

def ChunkCtx.mk' (c : ChunkCtx) (s1 : Nat) (s2 : Option Nat) (want : Option (List Str)) : PPart :=
  { part := { execLines := sliceFrom c.execLines s1 s2, wantLines := want,
              origLines := some (sliceFrom c.sourceLines s1 s2), lineOffset := c.lineno + s1 },
    directives := c.dirMap.lookup s1 }

def ChunkCtx.mkMid (c : ChunkCtx) (a b : Nat) : PPart := c.mk' a (some b) none

def ChunkCtx.mkLast (c : ChunkCtx) (a : Nat) : PPart :=
  let last := c.mk' a none (some c.wantLines)
  { last with part := { last.part with compileMode := if c.wantLines.isEmpty then .exec else c.modeHint } }

@[simp] theorem ChunkCtx.mkMid_execLines (c : ChunkCtx) (a b : Nat) :
    (c.mkMid a b).part.execLines = (c.execLines.drop a).take (b - a) := rfl
@[simp] theorem ChunkCtx.mkMid_origLines (c : ChunkCtx) (a b : Nat) :
    (c.mkMid a b).part.origLines = some ((c.sourceLines.drop a).take (b - a)) := rfl
@[simp] theorem ChunkCtx.mkMid_lineOffset (c : ChunkCtx) (a b : Nat) : (c.mkMid a b).part.lineOffset = c.lineno + a := rfl
@[simp] theorem ChunkCtx.mkLast_execLines (c : ChunkCtx) (a : Nat) : (c.mkLast a).part.execLines = c.execLines.drop a := rfl
@[simp] theorem ChunkCtx.mkLast_origLines (c : ChunkCtx) (a : Nat) :
    (c.mkLast a).part.origLines = some (c.sourceLines.drop a) := rfl
@[simp] theorem ChunkCtx.mkLast_lineOffset (c : ChunkCtx) (a : Nat) : (c.mkLast a).part.lineOffset = c.lineno + a := rfl
@[simp] theorem ChunkCtx.mkLast_wantLines (c : ChunkCtx) (a : Nat) : (c.mkLast a).part.wantLines = some c.wantLines := rfl

/-- `_package_chunk` with the list of cut points made explicit -/
def packageChunkSpec (rawSrc rawWant : List Str) (lineno : Nat) (facts : ChunkFacts) :
    Except ParseError (List PPart) :=
  let lineIndent := match rawSrc with | l :: _ => indentOf l | [] => 0
  let sourceLines := rawSrc.map (·.drop lineIndent)
  let wantLines := rawWant.map (·.drop lineIndent)
  let execLines := sourceLines.map (·.drop 4)
  match locatePs1 sourceLines facts with
  | .error e => .error e
  | .ok (ps1s, modeHint) =>
    match (ps1s.zip ((ps1s.drop 1).map some ++ [none])).foldlM (breakStep execLines) ([], []) with
    | .error e => .error e
    | .ok (breaks, dirMap) =>
      match finalCuts (breakCuts breaks) (!wantLines.isEmpty && (modeHint == .eval || modeHint == .single)) ps1s with
      | .error e => .error e
      | .ok cuts =>
        let c : ChunkCtx := { sourceLines, wantLines, execLines, lineno, dirMap, modeHint }
        .ok (partsOfCuts c.mkMid c.mkLast cuts)

theorem partsOfCuts_eq (mkMid : Nat → Nat → PPart) (mkLast : Nat → PPart) (a : Nat) (bs : List Nat) :
    partsOfCuts mkMid mkLast (a :: bs) =
      ((a :: bs).zip bs).map (fun x => mkMid x.1 x.2) ++ [mkLast ((a :: bs).getLast?.getD 0)] := by
  induction bs generalizing a with
  | nil => simp [partsOfCuts]
  | cons b r ih => simp [partsOfCuts, ih b, List.getLast?_cons_cons]

theorem partsOfCuts_append (mkMid : Nat → Nat → PPart) (mkLast : Nat → PPart) (a : Nat) (bs : List Nat) (s2 : Nat) :
    partsOfCuts mkMid mkLast ((a :: bs) ++ [s2]) =
      ((a :: bs).zip bs).map (fun x => mkMid x.1 x.2) ++
        [mkMid ((a :: bs).getLast?.getD 0) s2, mkLast s2] := by
  induction bs generalizing a with
  | nil => simp [partsOfCuts]
  | cons b r ih =>
    have := ih b
    simp only [List.cons_append] at this
    simp [partsOfCuts, this, List.getLast?_cons_cons]

/-- the directive scan of `_package_chunk`, as the model writes it -/
def breaksOf (execLines : List Str) (ps1s : List Nat) : Except ParseError (List Nat × List (Nat × List Directive)) :=
  (ps1s.zip ((ps1s.drop 1).map some ++ [none])).foldlM (fun (acc : List Nat × List (Nat × List Directive)) (p : Nat × Option Nat) => do
      let ds ← extractDirectives (sliceFrom execLines p.1 p.2)
      match ds with
      | [] => pure acc
      | d :: _ =>
        let b := acc.1 ++ [p.1]
        let b := match d.inline, p.2 with
          | true, some s2 => b ++ [s2]
          | _, _ => b
        pure (b, acc.2 ++ [(p.1, ds)])) ([], [])

/-- the slicing of `_package_chunk` once the PS1 lines and the breaks are known, as the model writes it,
    for any way `mk` of cutting out a part and `fin` of making the last one -/
def assemble (mk : Nat → Option Nat → Option (List Str) → PPart) (fin : Nat → PPart) (split : Bool)
    (ps1s breaks : List Nat) : Except ParseError (List PPart) := do
  let (parts, s1) :=
    match breaks with
    | [] => (([] : List PPart), 0)
    | _ =>
      let bs := dedupSorted (0 :: breaks)
      let ps := (bs.zip (bs.drop 1)).map fun (a, b) => mk a (some b) none
      (ps, (bs.getLast?).getD 0)
  let s1 := match breaks with | [] => 0 | _ => if (dedupSorted (0 :: breaks)).length < 2 then 0 else s1
  let (parts, s1) ←
    if split then
      match ps1s.getLast? with
      | none => throw ParseError.index
      | some s2 => if s2 != s1 then pure (parts ++ [mk s1 (some s2) none], s2) else pure (parts, s1)
    else pure (parts, s1)
  pure (parts ++ [fin s1])

theorem packageChunk_eq (rawSrc rawWant : List Str) (lineno : Nat) (facts : ChunkFacts) :
    packageChunk rawSrc rawWant lineno facts =
      (let lineIndent := match rawSrc with | l :: _ => indentOf l | [] => 0
       let sourceLines := rawSrc.map (·.drop lineIndent)
       let wantLines := rawWant.map (·.drop lineIndent)
       let execLines := sourceLines.map (·.drop 4)
       do
        let (ps1s, modeHint) ← locatePs1 sourceLines facts
        let (breaks, dirMap) ← breaksOf execLines ps1s
        let c : ChunkCtx := { sourceLines, wantLines, execLines, lineno, dirMap, modeHint }
        assemble c.mk' c.mkLast (!wantLines.isEmpty && (modeHint == .eval || modeHint == .single)) ps1s breaks) := by
  rfl

theorem breaksOf_eq (execLines : List Str) (ps1s : List Nat) :
    breaksOf execLines ps1s = (ps1s.zip ((ps1s.drop 1).map some ++ [none])).foldlM (breakStep execLines) ([], []) := by
  unfold breaksOf
  congr 1
  funext acc p
  unfold breakStep
  cases extractDirectives (sliceFrom execLines p.1 p.2) with
  | error e => rfl
  | ok v => cases v <;> rfl

theorem assemble_eq (mk : Nat → Option Nat → Option (List Str) → PPart) (fin : Nat → PPart) (split : Bool)
    (ps1s breaks : List Nat) :
    assemble mk fin split ps1s breaks =
      match finalCuts (breakCuts breaks) split ps1s with
      | .error e => .error e
      | .ok cuts => .ok (partsOfCuts (fun a b => mk a (some b) none) fin cuts) := by
  unfold assemble finalCuts
  simp only [bind, Except.bind, pure, Except.pure]
  cases breaks with
  | nil =>
    simp only [breakCuts]
    cases split with
    | false => rfl
    | true =>
      cases ps1s.getLast? with
      | none => rfl
      | some s2 =>
        simp only [List.getLast?_singleton, Option.getD_some, if_true]
        by_cases h : (s2 != 0) = true
        · simp only [h, ↓reduceIte]; rfl
        · simp only [h]; rfl
  | cons b breaks =>
    simp only [breakCuts]
    obtain ⟨r, hr⟩ := head_of_sorted_mem_zero (dedupSorted_pairwise_lt (0 :: b :: breaks))
      (mem_dedupSorted.mpr (by simp))
    -- with the single cut `[0]` the loop over the pairs does not run: `s1` is 0 either way
    have hs1 : (if (0 :: r).length < 2 then 0 else (0 :: r).getLast?.getD 0) = (0 :: r).getLast?.getD 0 := by
      cases r with
      | nil => simp
      | cons a r => simp; omega
    simp only [hr, hs1, List.drop_succ_cons, List.drop_zero]
    cases split with
    | false => simp only [Bool.false_eq_true, if_false, partsOfCuts_eq]
    | true =>
      cases ps1s.getLast? with
      | none => rfl
      | some s2 =>
        simp only [if_true]
        by_cases h : (s2 != (0 :: r).getLast?.getD 0) = true
        · simp only [h, ↓reduceIte, partsOfCuts_append]; simp
        · simp only [h, Bool.false_eq_true, if_false, partsOfCuts_eq]

theorem packageChunk_eq_spec (rawSrc rawWant : List Str) (lineno : Nat) (facts : ChunkFacts) :
    packageChunk rawSrc rawWant lineno facts = packageChunkSpec rawSrc rawWant lineno facts := by
  rw [packageChunk_eq]
  unfold packageChunkSpec
  dsimp only
  cases locatePs1 _ facts with
  | error e => rfl
  | ok v =>
    simp only [bind, Except.bind, breaksOf_eq]
    generalize List.foldlM (m := Except ParseError) (breakStep _) _ _ = r
    cases r with
    | error e => rfl
    | ok w => exact assemble_eq _ _ _ _ _

/-- a step adds to the breaks at most the PS1 line `p.1` it looks at and the next one `p.2` -/
theorem breakStep_mem {el : List Str} {acc acc' : List Nat × List (Nat × List Directive)} {p : Nat × Option Nat}
    (h : breakStep el acc p = .ok acc') : ∀ a ∈ acc'.1, a ∈ acc.1 ∨ a = p.1 ∨ p.2 = some a := by
  unfold breakStep at h
  split at h
  · cases h
  · split at h
    · cases h; exact fun a ha => .inl ha
    · cases h
      intro a ha
      split at ha <;> simp only [List.mem_append, List.mem_singleton] at ha
      · next heq => exact ha.elim (·.imp_right .inl) fun ha => .inr (.inr (ha ▸ heq))
      · exact ha.imp_right .inl

theorem mem_ps1_pairs {ps1s : List Nat} {p : Nat × Option Nat}
    (h : p ∈ ps1s.zip ((ps1s.drop 1).map some ++ [none])) :
    p.1 ∈ ps1s ∧ ∀ s, p.2 = some s → s ∈ ps1s := by
  obtain ⟨a, b⟩ := p
  have := List.of_mem_zip h
  refine ⟨this.1, ?_⟩
  intro s hs
  simp only at hs
  subst hs
  have h2 := this.2
  simp only [List.mem_append, List.mem_map, Option.some.injEq, exists_eq_right, List.mem_cons,
    reduceCtorEq, List.not_mem_nil, or_false] at h2
  exact List.mem_of_mem_drop h2

structure CutsOk (ps1s cuts : List Nat) : Prop where
  sorted : cuts.Pairwise (· < ·)
  head : ∃ r, cuts = 0 :: r
  mem : ∀ c ∈ cuts, c = 0 ∨ c ∈ ps1s

theorem breakCuts_cutsOk {ps1s breaks : List Nat} (hb : ∀ a ∈ breaks, a ∈ ps1s) :
    CutsOk ps1s (breakCuts breaks) := by
  cases breaks with
  | nil => exact ⟨by simp [breakCuts], ⟨[], rfl⟩, by simp [breakCuts]⟩
  | cons b r =>
    simp only [breakCuts]
    refine ⟨dedupSorted_pairwise_lt _, head_of_sorted_mem_zero (dedupSorted_pairwise_lt _) (mem_dedupSorted.mpr (by simp)), ?_⟩
    intro c hc
    rcases List.mem_cons.mp (mem_dedupSorted.mp hc) with h | h
    · exact Or.inl h
    · exact Or.inr (hb c h)

theorem finalCuts_cutsOk {ps1s bs cuts : List Nat} {split : Bool} (hps : ps1s.Pairwise (· < ·))
    (hbs : CutsOk ps1s bs) (h : finalCuts bs split ps1s = .ok cuts) : CutsOk ps1s cuts := by
  unfold finalCuts at h
  split at h
  · split at h
    · cases h
    · next s2 hs2 =>
      split at h
      · next hne =>
        cases h
        obtain ⟨r, hr⟩ := hbs.head
        have hmem : s2 ∈ ps1s := List.mem_of_getLast? hs2
        refine ⟨?_, ⟨r ++ [s2], by simp [hr]⟩, ?_⟩
        · rw [List.pairwise_append]
          refine ⟨hbs.sorted, by simp, ?_⟩
          intro a ha b hb
          simp only [List.mem_cons, List.not_mem_nil, or_false] at hb
          subst hb
          -- every cut is at most the last PS1 line, and the last cut differs from it
          obtain ⟨m, hm⟩ : ∃ m, bs.getLast? = some m := by
            rw [hr]; exact ⟨_, List.getLast?_eq_some_getLast (by simp)⟩
          have ham : a ≤ m := le_getLast_of_sorted hbs.sorted ha hm
          have hmb : m ≤ b := by
            rcases hbs.mem m (List.mem_of_getLast? hm) with h0 | hin
            · omega
            · exact le_getLast_of_sorted hps hin hs2
          have : b ≠ m := by simpa [hm] using hne
          omega
        · intro c hc
          rcases List.mem_append.mp hc with hc | hc
          · exact hbs.mem c hc
          · simp only [List.mem_cons, List.not_mem_nil, or_false] at hc; subst hc; exact Or.inr hmem
      · cases h; exact hbs
  · cases h; exact hbs

theorem locatePs1_ok {src : List Str} {facts : ChunkFacts} {ps1s : List Nat} {mode : CompileMode}
    (h : locatePs1 src facts = .ok (ps1s, mode)) :
    ps1s.Pairwise (· < ·) ∧
    ∃ starts lastIsExpr, facts = .parsed starts lastIsExpr ∧
      ∀ i ∈ ps1s, i ∈ starts ∧ ∀ l, src[i]? = some l → l.take 4 = ">>> ".toList := by
  unfold locatePs1 at h
  split at h
  · cases h
  · next starts lastIsExpr =>
    simp only [Except.ok.injEq, Prod.mk.injEq] at h
    obtain ⟨h1, _⟩ := h
    subst h1
    refine ⟨dedupSorted_pairwise_lt _, starts, lastIsExpr, rfl, ?_⟩
    intro i hi
    obtain ⟨hs, hnot⟩ := List.mem_filter.mp (mem_dedupSorted.mp hi)
    refine ⟨hs, fun l hl => Decidable.byContradiction fun hne => ?_⟩
    -- otherwise `i` is one of the lines without a `>>> ` prompt, which were filtered out
    simp only [Bool.not_eq_eq_eq_not, Bool.not_true, List.contains_eq_mem, decide_eq_false_iff_not,
      List.mem_filterMap] at hnot
    exact hnot ⟨(l, i), List.mem_zipIdx_iff_getElem?.mpr (by simpa using hl), if_pos (bne_iff_ne.mpr hne)⟩

theorem lineOffset_partsOfCuts (c : ChunkCtx) (cuts : List Nat) :
    (partsOfCuts c.mkMid c.mkLast cuts).map (·.part.lineOffset) = cuts.map (c.lineno + ·) := by
  induction cuts with
  | nil => rfl
  | cons a r ih =>
    cases r with
    | nil => simp [partsOfCuts]
    | cons b r =>
      simp only [partsOfCuts, List.map_cons]
      rw [ih]
      simp

/-- `line_offset = chunk start + number of earlier lines`, for every part — `Covers` promises an offset
    only to a part that has a first line -/
def OffsetsFrom (lineno : Nat) : Nat → List PPart → Prop
  | _, [] => True
  | acc, p :: ps => p.part.lineOffset = lineno + acc ∧ OffsetsFrom lineno (acc + p.part.execLines.length) ps

theorem offsets_partsOfCuts (c : ChunkCtx) (a : Nat) (cuts : List Nat)
    (hs : (a :: cuts).Pairwise (· < ·)) (hle : ∀ x ∈ a :: cuts, x ≤ c.execLines.length) :
    OffsetsFrom c.lineno a (partsOfCuts c.mkMid c.mkLast (a :: cuts)) := by
  induction cuts generalizing a with
  | nil => simp [partsOfCuts, OffsetsFrom]
  | cons b r ih =>
    rw [List.pairwise_cons] at hs
    have hab : a < b := hs.1 b (by simp)
    have hb : b ≤ c.execLines.length := hle b (by simp)
    simp only [partsOfCuts, OffsetsFrom]
    refine ⟨rfl, ?_⟩
    have hlen : a + (c.mkMid a b).part.execLines.length = b := by
      simp; omega
    rw [hlen]
    exact ih b hs.2 (fun x hx => hle x (List.mem_cons_of_mem _ hx))

/-- `line_indent` of `_package_chunk`: the indentation of the chunk's first line -/
def chunkIndent (rawSrc : List Str) : Nat :=
  match rawSrc with | l :: _ => indentOf l | [] => 0

/-- What a successful `_package_chunk` is made of; every other fact about its parts is read off this.
    `ps1s` are the statement starts of CPython that carry a `>>> ` prompt (`locatePs1_ok`). -/
structure ChunkOk (rawSrc rawWant : List Str) (lineno : Nat) (facts : ChunkFacts) (ps : List PPart)
    (c : ChunkCtx) (ps1s cuts : List Nat) : Prop where
  sourceLines : c.sourceLines = rawSrc.map (·.drop (chunkIndent rawSrc))
  wantLines : c.wantLines = rawWant.map (·.drop (chunkIndent rawSrc))
  execLines : c.execLines = c.sourceLines.map (·.drop 4)
  lineno : c.lineno = lineno
  located : locatePs1 c.sourceLines facts = .ok (ps1s, c.modeHint)
  cutsOk : CutsOk ps1s cuts
  parts : ps = partsOfCuts c.mkMid c.mkLast cuts

theorem packageChunk_ok {rawSrc rawWant : List Str} {lineno : Nat} {facts : ChunkFacts} {ps : List PPart}
    (h : packageChunk rawSrc rawWant lineno facts = .ok ps) :
    ∃ c ps1s cuts, ChunkOk rawSrc rawWant lineno facts ps c ps1s cuts := by
  rw [packageChunk_eq_spec] at h
  unfold packageChunkSpec at h
  dsimp only at h
  split at h
  · cases h
  · next ps1s mode hloc =>
    split at h
    · cases h
    · next breaks dirMap hfold =>
      split at h
      · cases h
      · next cuts hcuts =>
        cases h
        -- the fold over the directive scan is used for one invariant only: every break is a PS1 line
        have hsub : ∀ a ∈ breaks, a ∈ ps1s :=
          foldlM_ok_inv (fun _ acc => ∀ a ∈ acc.1, a ∈ ps1s) hfold (by simp) fun _ p _ _ _ e hi hs a ha =>
            have hp := mem_ps1_pairs (p := p) (by rw [e]; simp)
            (breakStep_mem hs a ha).elim (hi a) fun h => h.elim (· ▸ hp.1) (hp.2 a)
        exact ⟨⟨_, _, _, lineno, dirMap, mode⟩, ps1s, cuts, rfl, rfl, rfl, rfl, hloc,
          finalCuts_cutsOk (locatePs1_ok hloc).1 (breakCuts_cutsOk hsub) hcuts, rfl⟩

theorem packageChunk_ok_parsed {rawSrc rawWant : List Str} {lineno : Nat} {facts : ChunkFacts} {ps : List PPart}
    (h : packageChunk rawSrc rawWant lineno facts = .ok ps) : ∃ starts e, facts = .parsed starts e := by
  obtain ⟨c, ps1s, cuts, hk⟩ := packageChunk_ok h
  obtain ⟨_, starts, e, hf, _⟩ := locatePs1_ok hk.located
  exact ⟨starts, e, hf⟩

/-- `Directive.extract` on the lines of a PS1 group: the tokenizer's `IndentationError`, or a
    malformed option string -/
theorem extractDirectives_error {lines : List Str} {e : ParseError} (h : extractDirectives lines = .error e) :
    e = .indentation ∨ e = .directive := by
  unfold extractDirectives at h
  simp only at h
  split at h
  · cases h; exact Or.inl rfl
  · obtain ⟨acc, c, _, hf⟩ := foldlM_error h
    split at hf
    · cases hf
    · split at hf
      · cases hf
      · split at hf
        · cases hf; exact Or.inr rfl
        · cases hf

theorem breakStep_error {el : List Str} {acc : List Nat × List (Nat × List Directive)} {p : Nat × Option Nat}
    {e : ParseError} (h : breakStep el acc p = .error e) : e = .indentation ∨ e = .directive := by
  unfold breakStep at h
  split at h
  · cases h; exact extractDirectives_error ‹_›
  · split at h <;> cases h

theorem finalCuts_error {bs ps1s : List Nat} {split : Bool} {e : ParseError}
    (h : finalCuts bs split ps1s = .error e) : e = .index := by
  unfold finalCuts at h
  split at h
  · split at h
    · cases h; rfl
    · split at h <;> cases h
  · cases h

theorem locatePs1_error {sl : List Str} {facts : ChunkFacts} {e : ParseError}
    (h : locatePs1 sl facts = .error e) : e = .syntax ∧ facts = .syntaxError := by
  cases facts with
  | syntaxError => cases h; exact ⟨rfl, rfl⟩
  | parsed starts le => cases h

/-- the errors of `_package_chunk` : `ast.parse`, the directive scan, `ps1_linenos[-1]` -/
theorem packageChunk_error {src want : List Str} {lineno : Nat} {facts : ChunkFacts} {e : ParseError}
    (h : packageChunk src want lineno facts = .error e) :
    e = .syntax ∨ e = .indentation ∨ e = .directive ∨ e = .index := by
  rw [packageChunk_eq_spec] at h
  unfold packageChunkSpec at h
  dsimp only at h
  split at h
  · cases h; exact Or.inl (locatePs1_error ‹_›).1
  · split at h
    · cases h
      obtain ⟨acc, p, _, hf⟩ := foldlM_error ‹_›
      exact Or.inr ((breakStep_error hf).elim Or.inl (fun h => Or.inr (Or.inl h)))
    · split at h
      · cases h; exact Or.inr (Or.inr (Or.inr (finalCuts_error ‹_›)))
      · cases h

/-- part `p` covers the raw lines `ls` starting at line `o` of the docstring; `k` is the chunk's indent -/
def Covers (k : Nat) (p : PPart) (o : Nat) (ls : List Str) : Prop :=
  p.part.origLines = some (ls.map (·.drop k)) ∧
  p.part.execLines = ls.map (fun l => (l.drop k).drop 4) ∧
  (ls ≠ [] → p.part.lineOffset = o)

/-- the parts of one chunk tile its source lines `ls` from line `o` on; only the last one carries
    the want (the raw want lines without the indent `k`) -/
inductive SrcTiles (k : Nat) (want : List Str) : List PPart → Nat → List Str → Prop
  | last {p : PPart} {o : Nat} {ls : List Str} :
      Covers k p o ls → p.part.wantLines = some (want.map (·.drop k)) → SrcTiles k want [p] o ls
  | cons {p : PPart} {ps : List PPart} {o : Nat} {ls rest : List Str} :
      Covers k p o ls → p.part.wantLines = none → SrcTiles k want ps (o + ls.length) rest →
      SrcTiles k want (p :: ps) o (ls ++ rest)

/-- The tiling of `src.drop a` starts at a line `o` that has to be `lineno + a` only if the chunk has a
    line `a`: nothing bounds the cuts by the number of lines (the oracle's statement starts are arbitrary),
    a cut beyond the end gives empty slices, and an empty part promises no offset (`Covers`). -/
theorem srcTiles_partsOfCuts (c : ChunkCtx) (k : Nat) (src want : List Str)
    (hsrc : c.sourceLines = src.map (·.drop k)) (hexec : c.execLines = c.sourceLines.map (·.drop 4))
    (hwant : c.wantLines = want.map (·.drop k)) (a : Nat) (cuts : List Nat)
    (hs : (a :: cuts).Pairwise (· < ·)) (o : Nat) (ho : a < src.length → o = c.lineno + a) :
    SrcTiles k want (partsOfCuts c.mkMid c.mkLast (a :: cuts)) o (src.drop a) := by
  have hlt : ∀ {a}, src.drop a ≠ [] → a < src.length := fun hne =>
    Nat.lt_of_not_le fun h => hne (List.drop_eq_nil_of_le h)
  induction cuts generalizing a o with
  | nil =>
    refine .last ⟨?_, ?_, fun hne => ?_⟩ ?_
    · rw [ChunkCtx.mkLast_origLines, hsrc, List.map_drop]
    · simp only [ChunkCtx.mkLast_execLines, hexec, hsrc, List.map_map, Function.comp_def, List.map_drop]
    · rw [ChunkCtx.mkLast_lineOffset, ho (hlt hne)]
    · rw [ChunkCtx.mkLast_wantLines, hwant]
  | cons b r ih =>
    rw [List.pairwise_cons] at hs
    have hab : a < b := hs.1 b (by simp)
    have hsplit : src.drop a = (src.drop a).take (b - a) ++ src.drop b := by
      conv => lhs; rw [← List.take_append_drop (b - a) (src.drop a)]
      rw [List.drop_drop]; congr 2; omega
    rw [hsplit]
    refine .cons ⟨?_, ?_, fun hne => ?_⟩ rfl (ih b hs.2 _ fun hb => ?_)
    · rw [ChunkCtx.mkMid_origLines, hsrc, List.map_take, List.map_drop]
    · simp only [ChunkCtx.mkMid_execLines, hexec, hsrc, List.map_map, Function.comp_def, List.map_take,
        List.map_drop]
    · rw [ChunkCtx.mkMid_lineOffset, ho (hlt fun e => hne (by rw [e]; exact List.take_nil))]
    · rw [ho (by omega), List.length_take, List.length_drop]; omega

/-- the indentation `_package_chunk` removes from every line of the chunk -/
def chunkIndentP (src : List Str) : Nat := match src with | l :: _ => indentOf l | [] => 0

theorem packageChunk_tiles {src want : List Str} {lineno : Nat} {facts : ChunkFacts} {parts : List PPart}
    (h : packageChunk src want lineno facts = .ok parts) :
    SrcTiles (chunkIndentP src) want parts lineno src := by
  obtain ⟨c, ps1s, cuts, hk⟩ := packageChunk_ok h
  obtain ⟨r, hr⟩ := hk.cutsOk.head
  rw [hk.parts, hr]
  -- `chunkIndent` is handed over where `chunkIndentP` is asked for: the two definitions have one body
  exact srcTiles_partsOfCuts c (chunkIndent src) src want hk.sourceLines hk.execLines hk.wantLines 0 r
    (hr ▸ hk.cutsOk.sorted) lineno fun _ => by rw [hk.lineno]; rfl

theorem SrcTiles.flatten {k : Nat} {want : List Str} {ps : List PPart} {o : Nat} {ls : List Str}
    (h : SrcTiles k want ps o ls) :
    (ps.map (·.part.execLines)).flatten = ls.map (fun l => (l.drop k).drop 4) ∧
    (ps.map (fun p => p.part.origLines.getD [])).flatten = ls.map (·.drop k) := by
  induction h with
  | last hc _ => simp [hc.1, hc.2.1]
  | cons hc _ _ ih => simp [hc.1, hc.2.1, ih.1, ih.2]

/-- the third conjunct keeps what `SrcTiles` says about want lines in a form that does not ask which
    part `q` is -/
theorem srcTiles_covers_of_mem {k : Nat} {want : List Str} {parts : List PPart} {o : Nat} {src : List Str}
    (h : SrcTiles k want parts o src) {q : PPart} (hq : q ∈ parts) :
    ∃ pre ls post, src = pre ++ ls ++ post ∧ Covers k q (o + pre.length) ls ∧
      ∀ l ∈ q.part.wantLines.getD [], ∃ r ∈ want, l = r.drop k := by
  induction h with
  | @last p o ls hc hw =>
    obtain rfl := List.mem_singleton.mp hq
    refine ⟨[], ls, [], by simp, hc, ?_⟩
    rw [hw]
    exact fun l hl => (List.mem_map.mp hl).imp fun r hr => ⟨hr.1, hr.2.symm⟩
  | @cons p ps o ls rest hc hw _ ih =>
    rcases List.mem_cons.mp hq with rfl | hq
    · exact ⟨[], ls, rest, rfl, hc, by simp [hw]⟩
    · obtain ⟨pre, ls', post, rfl, hc', hw'⟩ := ih hq
      refine ⟨ls ++ pre, ls', post, by simp, ?_, hw'⟩
      rwa [List.length_append, ← Nat.add_assoc]

end Xdoc.Parser
