import XdocModel.Runner
/-! The native runner of `Runner.lean`: the tallies of `_run_examples` when every call returns
    (`summaryOfReturns`), `doctest_module` in terms of it, and what the gathering step selects. -/
namespace Xdoc
open Py

/-- exactly one of the three flags (what `verdict_trichotomy` proves of every `run`) -/
def Summary.Exclusive (s : Summary) : Prop :=
  (s.passed = true ∧ s.failed = false ∧ s.skipped = false) ∨
  (s.passed = false ∧ s.failed = true ∧ s.skipped = false) ∨
  (s.passed = false ∧ s.failed = false ∧ s.skipped = true)

def Entry.summaryD (e : Entry) : Summary :=
  match e.result with
  | .summary s => s
  | _ => ⟨false, false, false⟩

/-- the `else` branch of `_run_examples` : appended to `failed` -/
def Entry.inFailedBranch (e : Entry) : Bool :=
  match e.result with
  | .summary s => !s.skipped && !s.passed
  | _ => false

def Entry.failed (e : Entry) : Bool :=
  match e.result with
  | .summary s => s.failed
  | _ => false

def Entry.returns (e : Entry) : Prop := ∃ s, e.result = .summary s

theorem Entry.result_of_returns {e : Entry} (h : e.returns) : e.result = .summary e.summaryD := by
  obtain ⟨s, hs⟩ := h; rw [hs, Entry.summaryD, hs]

theorem Entry.failed_eq (e : Entry) : e.failed = e.summaryD.failed := by
  unfold Entry.failed Entry.summaryD; split <;> rfl

theorem Entry.inFailedBranch_of_returns {e : Entry} (h : e.returns) :
    e.inFailedBranch = (!e.summaryD.skipped && !e.summaryD.passed) := by
  rw [Entry.inFailedBranch, Entry.result_of_returns h]

theorem Summary.Exclusive.failed_eq {s : Summary} (h : s.Exclusive) : (!s.skipped && !s.passed) = s.failed := by
  rcases h with ⟨h1, h2, h3⟩ | ⟨h1, h2, h3⟩ | ⟨h1, h2, h3⟩ <;> rw [h1, h2, h3] <;> rfl

theorem countTrue_append (f : Summary → Bool) (a b : List Summary) :
    countTrue f (a ++ b) = countTrue f a + countTrue f b := by
  simp [countTrue, List.filter_append]

theorem countTrue_map {α : Type} (f : Summary → Bool) (g : α → Summary) (l : List α) :
    countTrue f (l.map g) = (l.filter fun a => f (g a)).length := by
  rw [countTrue, List.filter_map, List.length_map]; rfl

theorem countTrue_exclusive (l : List Summary) (h : ∀ s ∈ l, s.Exclusive) :
    countTrue (·.passed) l + countTrue (·.failed) l + countTrue (·.skipped) l = l.length := by
  induction l with
  | nil => rfl
  | cons s l ih =>
    have ih := ih fun t ht => h t (List.mem_cons_of_mem _ ht)
    simp only [countTrue, List.filter_cons, List.length_cons] at ih ⊢
    rcases h s List.mem_cons_self with ⟨h1, h2, h3⟩ | ⟨h1, h2, h3⟩ | ⟨h1, h2, h3⟩ <;>
      simp only [h1, h2, h3, ↓reduceIte, Bool.false_eq_true, List.length_cons] <;> omega

/-- what `_run_examples` returns when every `run` call returns -/
def summaryOfReturns (es : List Entry) : RunSummary :=
  { nTotal := es.length,
    nPassed := countTrue (·.passed) (es.map Entry.summaryD),
    nFailed := countTrue (·.failed) (es.map Entry.summaryD),
    nSkipped := countTrue (·.skipped) (es.map Entry.summaryD),
    failed := es.filter Entry.inFailedBranch, ran := es }

theorem runLoopExamples_returns (es : List Entry) (a : LoopAcc) (h : ∀ e ∈ es, e.returns) :
    runLoopExamples es a = some
      { summaries := a.summaries ++ es.map Entry.summaryD,
        failed := a.failed ++ es.filter Entry.inFailedBranch,
        ran := a.ran ++ es } := by
  induction es generalizing a with
  | nil => simp [runLoopExamples]
  | cons e es ih =>
    have he := h e List.mem_cons_self
    simp only [runLoopExamples, Entry.result_of_returns he, ih _ fun x hx => h x (List.mem_cons_of_mem _ hx),
      List.map_cons, List.filter_cons, Entry.inFailedBranch_of_returns he, List.append_assoc, List.cons_append,
      List.nil_append]
    cases e.summaryD.skipped <;> cases e.summaryD.passed <;> simp

theorem returns_of_runLoopExamples {es : List Entry} {a a' : LoopAcc} (h : runLoopExamples es a = some a')
    (hni : ∀ e ∈ es, e.result ≠ .interrupt) : ∀ e ∈ es, e.returns := by
  induction es generalizing a with
  | nil => nofun
  | cons x es ih =>
    cases hx : x.result with
    | escaped => simp [runLoopExamples, hx] at h
    | interrupt => exact absurd hx (hni x List.mem_cons_self)
    | summary s =>
      rw [runLoopExamples, hx] at h
      intro e he
      rcases List.mem_cons.mp he with rfl | he
      · exact ⟨s, hx⟩
      · exact ih h (fun y hy => hni y (List.mem_cons_of_mem _ hy)) e he

theorem runLoopExamples_none_iff (es : List Entry) (a : LoopAcc) :
    runLoopExamples es a = none ↔
      ∃ pre e post, es = pre ++ e :: post ∧ e.result = .escaped ∧ ∀ x ∈ pre, x.returns := by
  induction es generalizing a with
  | nil => simp [runLoopExamples]
  | cons e es ih =>
    have first : (∃ pre x post, e :: es = pre ++ x :: post ∧ x.result = .escaped ∧ ∀ y ∈ pre, y.returns) ↔
        e.result = .escaped ∨ (e.returns ∧
          ∃ pre x post, es = pre ++ x :: post ∧ x.result = .escaped ∧ ∀ y ∈ pre, y.returns) := by
      constructor
      · rintro ⟨pre, x, post, heq, hx, hpre⟩
        cases pre with
        | nil => cases heq; exact .inl hx
        | cons q pre =>
          cases heq
          exact .inr ⟨hpre _ List.mem_cons_self, pre, x, post, rfl, hx, fun y hy => hpre y (List.mem_cons_of_mem _ hy)⟩
      · rintro (hx | ⟨he, pre, x, post, rfl, hx, hpre⟩)
        · exact ⟨[], e, es, rfl, hx, nofun⟩
        · exact ⟨e :: pre, x, post, rfl, hx, List.forall_mem_cons.mpr ⟨he, hpre⟩⟩
    rw [first, runLoopExamples]
    cases hr : e.result with
    | escaped => exact ⟨fun _ => .inl rfl, fun _ => rfl⟩
    | interrupt => exact ⟨nofun, fun h => h.elim nofun fun ⟨⟨s, hs⟩, _⟩ => by rw [hr] at hs; cases hs⟩
    | summary s => rw [ih]; exact ⟨fun h => .inr ⟨⟨s, hr⟩, h⟩, fun h => h.elim nofun (·.2)⟩

theorem runExamples_of_returns (es : List Entry) (h : ∀ e ∈ es, e.returns) :
    runExamples es = some (summaryOfReturns es) := by
  simp [runExamples, runLoopExamples_returns es {} h, summaryOfReturns]

theorem returns_of_runExamples {es : List Entry} {rs : RunSummary} (h : runExamples es = some rs)
    (hni : ∀ e ∈ es, e.result ≠ .interrupt) : rs = summaryOfReturns es ∧ ∀ e ∈ es, e.returns := by
  have hret : ∀ e ∈ es, e.returns := by
    cases hl : runLoopExamples es {} with
    | none => rw [runExamples, hl] at h; cases h
    | some a => exact returns_of_runLoopExamples hl hni
  rw [runExamples_of_returns es hret] at h
  exact ⟨(Option.some.inj h).symm, hret⟩

theorem doctestModule_of_returns {cmd : Str} {examples zero : List Entry} (h1 : cmd ≠ cmdList)
    (h2 : cmd ≠ cmdDump) (hret : ∀ e ∈ gather cmd examples zero, e.returns) :
    doctestModule cmd examples zero = .ran (summaryOfReturns (gather cmd examples zero)) := by
  have c1 : (cmd == cmdList) = false := beq_eq_false_iff_ne.mpr h1
  have c2 : (cmd == cmdDump) = false := beq_eq_false_iff_ne.mpr h2
  simp only [doctestModule, c1, c2, Bool.false_eq_true, ↓reduceIte, runExamples_of_returns _ hret]

theorem doctestModule_ne_aborted {cmd : Str} {examples zero : List Entry}
    (hret : ∀ e ∈ gather cmd examples zero, e.returns) : doctestModule cmd examples zero ≠ .aborted := by
  simp only [doctestModule, runExamples_of_returns _ hret]
  repeat' split
  all_goals nofun

theorem runExamples_of_doctestModule_ran {cmd : Str} {examples zero : List Entry} {rs : RunSummary}
    (h : doctestModule cmd examples zero = .ran rs) : runExamples (gather cmd examples zero) = some rs := by
  simp only [doctestModule] at h
  repeat' split at h
  all_goals cases h
  assumption

theorem exitCode_ne_zero_iff (r : CommandResult) : exitCode r ≠ 0 ↔ r = .aborted ∨ 0 < nFailedOf r := by
  cases r <;> simp [exitCode, nFailedOf, Nat.pos_iff_ne_zero]

/-- `n_failed` counts the `failed` flags of the summaries, not the `failed` list: no exclusivity of the flags is needed -/
theorem exitCode_summaryOfReturns (es : List Entry) :
    exitCode (.ran (summaryOfReturns es)) ≠ 0 ↔ ∃ e ∈ es, e.failed = true := by
  rw [exitCode_ne_zero_iff, or_iff_right nofun]
  show 0 < countTrue (·.failed) (es.map Entry.summaryD) ↔ _
  rw [countTrue_map, List.length_pos_iff_exists_mem]
  simp only [List.mem_filter, Entry.failed_eq]

theorem resultOfRun_spec {Env : Type} (o : RunOutcome Env) :
    resultOfRun o ≠ .interrupt ∧ ∀ s, resultOfRun o = .summary s → s = o.summary := by
  unfold resultOfRun
  cases o.ending <;> simp

theorem resultOfRun_of_returned {Env : Type} {o : RunOutcome Env} (h : o.ending = .returned) :
    resultOfRun o = .summary o.summary := by
  rw [resultOfRun, h]

theorem gatherNamed_all {cmd : Str} (h : gatherAll cmd = true) (ex : List Entry) :
    gatherNamed cmd ex = ex.filter fun e => !isDisabled false e.doc.docsrc := by
  unfold gatherNamed; simp only [h, Bool.true_or, Bool.true_and]

theorem gatherNamed_named {cmd : Str} (h : gatherAll cmd = false) (ex : List Entry) :
    gatherNamed cmd ex = ex.filter fun e => cmd == e.doc.callname || cmd == e.doc.uniqueCallname := by
  unfold gatherNamed
  simp only [h, Bool.false_or, Bool.false_and, Bool.not_false, Bool.and_true, Doc.validTestnames,
    List.contains_cons, List.contains_nil, Bool.or_false]

theorem gather_of_ne_nil {cmd : Str} {ex zero : List Entry} (h : gatherNamed cmd ex ≠ []) :
    gather cmd ex zero = gatherNamed cmd ex := by
  unfold gather; split
  · rename_i hnil; exact absurd hnil h
  · rfl

theorem gather_of_nil {cmd : Str} {ex zero : List Entry} (h : gatherNamed cmd ex = []) :
    gather cmd ex zero = gatherZero cmd zero := by
  unfold gather; rw [h]

theorem mem_gather {cmd : Str} {ex zero : List Entry} {e : Entry} (h : e ∈ gather cmd ex zero) :
    e ∈ ex ∨ e ∈ zero := by
  by_cases hg : gatherNamed cmd ex = []
  · rw [gather_of_nil hg] at h; exact .inr (List.mem_filter.mp h).1
  · rw [gather_of_ne_nil hg] at h; exact .inl (List.mem_filter.mp h).1

theorem colon_mem_uniqueCallname (d : Doc) : ':' ∈ d.uniqueCallname := by
  simp [Doc.uniqueCallname]

theorem uniqueCallname_ne_of_no_colon (d : Doc) (c : Str) (h : ':' ∉ c) : d.uniqueCallname ≠ c := by
  intro heq; exact h (heq ▸ colon_mem_uniqueCallname d)

/-- the commands are no unique callnames -/
theorem cmd_no_colon : ':' ∉ cmdAll ∧ ':' ∉ cmdList ∧ ':' ∉ cmdDump := by
  unfold cmdAll cmdList cmdDump; decide_lits

/-- evaluates the regenerated table `Generated.zeroAllCommands`: true as long as `all` is not put into it -/
theorem gatherZero_all (zero : List Entry) (hz : ∀ z ∈ zero, z.doc.callname ≠ cmdAll) :
    gatherZero cmdAll zero = [] := by
  unfold gatherZero
  rw [List.filter_eq_nil_iff]
  intro z hz'
  have h1 : z.doc.callname ≠ cmdAll := hz z hz'
  have h2 : z.doc.uniqueCallname ≠ cmdAll := uniqueCallname_ne_of_no_colon _ _ cmd_no_colon.1
  have h3 : zeroAllCommands.contains cmdAll = false := by decide +kernel
  simp only [Doc.validTestnames, h3, Bool.or_false]
  simp [Ne.symm h1, Ne.symm h2]

theorem gather_all (examples zero : List Entry) (hz : ∀ z ∈ zero, z.doc.callname ≠ cmdAll) :
    gather cmdAll examples zero = examples.filter (fun e => !isDisabled false e.doc.docsrc) := by
  have hn := gatherNamed_all (cmd := cmdAll) (by decide) examples
  by_cases hnil : gatherNamed cmdAll examples = []
  · rw [gather_of_nil hnil, ← hn, hnil]; exact gatherZero_all zero hz
  · rw [gather_of_ne_nil hnil, hn]

theorem doctestModule_all (examples zero : List Entry) (hz : ∀ z ∈ zero, z.doc.callname ≠ cmdAll)
    (hret : ∀ e ∈ examples, isDisabled false e.doc.docsrc = false → e.returns) :
    doctestModule cmdAll examples zero =
      .ran (summaryOfReturns (examples.filter fun e => !isDisabled false e.doc.docsrc)) := by
  have hdm := doctestModule_of_returns (cmd := cmdAll) (examples := examples) (zero := zero) (by decide) (by decide)
  rw [gather_all examples zero hz] at hdm
  exact hdm fun e he => hret e (List.mem_filter.mp he).1 (by simpa using (List.mem_filter.mp he).2)

theorem gatherAll_false_of_colon (cmd : Str) (h : ':' ∈ cmd) : gatherAll cmd = false := by
  unfold gatherAll
  have h1 : cmd ≠ cmdAll := fun heq => cmd_no_colon.1 (heq ▸ h)
  have h2 : cmd ≠ cmdDump := fun heq => cmd_no_colon.2.2 (heq ▸ h)
  simp [h1, h2]

theorem filter_key_eq_singleton {α β : Type} [DecidableEq β] (f : α → β) (l : List α) (a : α)
    (ha : a ∈ l) (hnd : (l.map f).Nodup) : l.filter (fun x => f x == f a) = [a] := by
  obtain ⟨s, t, rfl⟩ := List.append_of_mem ha
  simp only [List.map_append, List.map_cons, List.nodup_append, List.nodup_cons, List.mem_map, List.mem_cons] at hnd
  have hs : s.filter (fun x => f x == f a) = [] :=
    List.filter_eq_nil_iff.mpr fun x hx e => hnd.2.2 _ ⟨x, hx, rfl⟩ _ (.inl rfl) (beq_iff_eq.mp e)
  have ht : t.filter (fun x => f x == f a) = [] :=
    List.filter_eq_nil_iff.mpr fun x hx e => hnd.2.1.1 ⟨x, hx, beq_iff_eq.mp e⟩
  simp [hs, ht]

end Xdoc
