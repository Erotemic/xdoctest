import XdocModel.Lemmas.LabelStep
import XdocModel.Lemmas.ExceptFold
/-!
The three grouping passes of `_group_labeled_lines`. `group1` and `group2` are folds over `iterThree`
with an optional open group in the state. Both walk along the items and start a new group before `m`
exactly when a condition on the labels of `m` and of its two neighbours holds (`cut1`, `cut2`).
`runs cut` is that walk as a structural recursion; `group1_eq_runs` / `group2_eq_runs` are the only
places where the folds are looked at, everything else about the two passes is an induction over
`runs`, for both at once. The third pass is a `foldlM`.
-/
namespace Xdoc.Parser
open Xdoc Py Lexer

abbrev Group := Label × List LLine

/-! The loop bodies and final steps of the three passes, as the model writes them, under names
(`group1_eq`, `group2_eq`, `group3_eq` hold by `rfl`). -/

def g1Step (st : G1) (t : Option LLine × LLine × Option LLine) : G1 :=
    let (left, mid, right) := t
    let l := left.map (·.1)
    let r := right.map (·.1)
    let st :=
      if l != some mid.1 || (mid.1 == .dsrc && r == some .dcnt) then
        (if !(l == some .dsrc && mid.1 == .dcnt) then
          { st with groups := match st.state with
                      | some s => st.groups ++ [(s, st.current)] | none => st.groups,
                    state := some mid.1, current := [] }
         else st)
      else st
    { st with current := st.current ++ [mid] }

def g1Finish (st : G1) : List Group :=
  match st.current, st.state with
  | [], _ => st.groups
  | _, some s => st.groups ++ [(s, st.current)]
  | _, none => st.groups

theorem group1_eq (labeled : List LLine) :
    group1 labeled = g1Finish ((iterThree none labeled).foldl g1Step {}) := rfl

def g2Step (st : G2) (t : Option Group × Group × Option Group) : G2 :=
    let (left, mid, right) := t
    let l := left.map (·.1)
    let r := right.map (·.1)
    if l == some mid.1 && r != some .want then { st with current := st.current ++ mid.2 }
    else
      { merged := match st.state, l with
          | some _, some ll => st.merged ++ [(ll, st.current)]
          | _, _ => st.merged,
        state := some mid.1, current := mid.2 }

def g2Finish (st : G2) : List Group :=
  match st.current, st.state with
  | [], _ => st.merged
  | _, some s => st.merged ++ [(s, st.current)]
  | _, none => st.merged

theorem group2_eq (groups : List Group) :
    group2 groups = g2Finish ((iterThree none groups).foldl g2Step {}) := rfl

def g3Flush (st : G3) : G3 :=
    match st.prevSource with
    | some src => { out := st.out ++ [.code src []], prevSource := none }
    | none => st

def g3Step (st : G3) (g : Group) : Except ParseError G3 :=
    let block := g.2.map (·.2)
    match g.1 with
    | .text => let st := g3Flush st; Except.ok { st with out := st.out ++ [.text block] }
    | .want =>
      (match st.prevSource with
       | none => Except.error ParseError.assertion
       | some src => Except.ok { out := st.out ++ [.code src block], prevSource := none })
    | _ => let st := g3Flush st; Except.ok { st with prevSource := some block }

theorem group3_eq (merged : List Group) :
    group3 merged =
      (match merged.foldlM g3Step {} with
       | .error e => .error e
       | .ok st =>
         match st.prevSource with
         | some (l :: ls) => .ok (st.out ++ [.code (l :: ls) []])
         | _ => .ok st.out) := rfl

theorem iterThree_cons {α : Type} (l : Option α) (m : α) (rest : List α) :
    iterThree l (m :: rest) = (l, m, rest.head?) :: iterThree (some m) rest := by
  cases rest <;> rfl

def cut1 (l : Option Label) (m : Label) (r : Option Label) : Bool :=
  (l != some m || (m == .dsrc && r == some .dcnt)) && !(l == some .dsrc && m == .dcnt)

def cut2 (l : Option Label) (m : Label) (r : Option Label) : Bool :=
  !(l == some m && r != some .want)

/-- the groups made of the items `xs` when `(s, cur)` is the open group and `l` the label of the item
    before `xs` -/
def runs (cut : Option Label → Label → Option Label → Bool) (s : Label) (cur : List LLine) (l : Label) :
    List Group → List Group
  | [] => match cur with
    | [] => []
    | _ => [(s, cur)]
  | m :: rest =>
    if cut (some l) m.1 (rest.head?.map (·.1)) then (s, cur) :: runs cut m.1 m.2 m.1 rest
    else runs cut s (cur ++ m.2) m.1 rest

theorem g1Step_eq (st : G1) (left : Option LLine) (mid : LLine) (right : Option LLine) :
    g1Step st (left, mid, right) =
      if cut1 (left.map (·.1)) mid.1 (right.map (·.1)) then
        ⟨match st.state with | some s => st.groups ++ [(s, st.current)] | none => st.groups, some mid.1, [mid]⟩
      else { st with current := st.current ++ [mid] } := by
  unfold g1Step cut1
  dsimp only
  generalize (left.map (·.1) != some mid.1 || (mid.1 == .dsrc && right.map (·.1) == some .dcnt)) = a
  generalize (left.map (·.1) == some .dsrc && mid.1 == .dcnt) = b
  cases a <;> cases b <;> rfl

theorem g1_fold_runs (xs : List LLine) (groups : List Group) (s : Label) (cur : List LLine) (lf : LLine) :
    g1Finish ((iterThree (some lf) xs).foldl g1Step ⟨groups, some s, cur⟩) =
      groups ++ runs cut1 s cur lf.1 (xs.map fun p => (p.1, [p])) := by
  induction xs generalizing groups s cur lf with
  | nil => cases cur <;> simp [iterThree, g1Finish, runs]
  | cons m rest ih =>
    rw [iterThree_cons, List.foldl_cons, g1Step_eq, List.map_cons, runs]
    have hr : ((rest.map fun p : LLine => ((p.1, [p]) : Group)).head?.map (·.1)) = rest.head?.map (·.1) := by
      cases rest <;> rfl
    simp only [Option.map_some, hr]
    split
    · rw [ih]; simp
    · rw [ih]

theorem group1_eq_runs (labeled : List LLine) :
    group1 labeled = match labeled with
      | [] => []
      | x :: xs => runs cut1 x.1 [x] x.1 (xs.map fun p => (p.1, [p])) := by
  rw [group1_eq]
  cases labeled with
  | nil => rfl
  | cons x xs =>
    rw [iterThree_cons, List.foldl_cons, g1Step_eq]
    simpa [cut1] using g1_fold_runs xs [] x.1 [x] x

theorem g2Step_eq (st : G2) (left : Option Group) (mid : Group) (right : Option Group) :
    g2Step st (left, mid, right) =
      if cut2 (left.map (·.1)) mid.1 (right.map (·.1)) then
        ⟨match st.state, left.map (·.1) with
          | some _, some ll => st.merged ++ [(ll, st.current)]
          | _, _ => st.merged, some mid.1, mid.2⟩
      else { st with current := st.current ++ mid.2 } := by
  unfold g2Step cut2
  dsimp only
  generalize (left.map (·.1) == some mid.1 && right.map (·.1) != some .want) = a
  cases a <;> rfl

/-- the code closes a group of pass 2 under the label of the left neighbour, not under `state`:
    the two agree, the label of the open group is the label of the last item -/
theorem g2_fold_runs (xs : List Group) (merged : List Group) (cur : List LLine) (lf : Group) :
    g2Finish ((iterThree (some lf) xs).foldl g2Step ⟨merged, some lf.1, cur⟩) =
      merged ++ runs cut2 lf.1 cur lf.1 xs := by
  induction xs generalizing merged cur lf with
  | nil => cases cur <;> simp [iterThree, g2Finish, runs]
  | cons m rest ih =>
    rw [iterThree_cons, List.foldl_cons, g2Step_eq, runs]
    simp only [Option.map_some]
    split
    · rw [ih]; simp
    · rename_i hc
      have e : lf.1 = m.1 := by simp [cut2] at hc; exact hc.1
      rw [e]; exact ih merged (cur ++ m.2) m

theorem group2_eq_runs (groups : List Group) :
    group2 groups = match groups with
      | [] => []
      | g :: gs => runs cut2 g.1 g.2 g.1 gs := by
  rw [group2_eq]
  cases groups with
  | nil => rfl
  | cons g gs =>
    rw [iterThree_cons, List.foldl_cons, g2Step_eq]
    simpa [cut2] using g2_fold_runs gs [] g.2 g

theorem runs_flat (cut : Option Label → Label → Option Label → Bool) (s : Label) (cur : List LLine) (l : Label)
    (xs : List Group) : (runs cut s cur l xs).flatMap (·.2) = cur ++ xs.flatMap (·.2) := by
  induction xs generalizing s cur l with
  | nil => cases cur <;> simp [runs]
  | cons m rest ih => rw [runs]; split <;> simp [ih]

inductive Cls where
  | text | src | want
  deriving DecidableEq, Repr

def Label.cls : Label → Cls
  | .text => .text | .dsrc => .src | .dcnt => .src | .want => .want

def GroupOk (g : Group) : Prop := g.2 ≠ [] ∧ ∀ p ∈ g.2, p.1.cls = g.1.cls

/-- `hcut`: the pass joins `m` to the open group only when `m` has the class of the item before it;
    `hl` carries that class along (`l` is the last item joined, `s` the label the group was opened with) -/
theorem runs_groupOk {cut : Option Label → Label → Option Label → Bool}
    (hcut : ∀ l m r, cut (some l) m r = false → m.cls = l.cls) {s : Label} {cur : List LLine} {l : Label}
    {xs : List Group} (hx : ∀ g ∈ xs, GroupOk g) (hc : GroupOk (s, cur)) (hl : l.cls = s.cls) :
    ∀ g ∈ runs cut s cur l xs, GroupOk g := by
  induction xs generalizing s cur l with
  | nil =>
    cases cur with
    | nil => exact absurd rfl hc.1
    | cons c cs => simpa [runs] using hc
  | cons m rest ih =>
    have hm := hx m (by simp)
    have hrest : ∀ g ∈ rest, GroupOk g := fun g hg => hx g (by simp [hg])
    rw [runs]
    split
    · intro g hg
      rcases List.mem_cons.mp hg with rfl | hg
      · exact hc
      · exact ih hrest hm rfl g hg
    · rename_i hn
      have hml : m.1.cls = s.cls := by rw [hcut _ _ _ (by simpa using hn), hl]
      refine ih hrest ⟨by simp [hc.1], fun p hp => ?_⟩ hml
      rcases List.mem_append.mp hp with hp | hp
      · exact hc.2 p hp
      · rw [hm.2 p hp, hml]

theorem cut1_cls (l m : Label) (r : Option Label) (h : cut1 (some l) m r = false) : m.cls = l.cls := by
  simp only [cut1, Bool.and_eq_false_iff, Bool.or_eq_false_iff, bne_eq_false_iff_eq, Option.some.injEq,
    Bool.not_eq_false', Bool.and_eq_true, beq_iff_eq] at h
  rcases h with ⟨h, _⟩ | ⟨h1, h2⟩
  · rw [h]
  · rw [h1, h2]; rfl

theorem cut2_cls (l m : Label) (r : Option Label) (h : cut2 (some l) m r = false) : m.cls = l.cls := by
  simp only [cut2, Bool.not_eq_false', Bool.and_eq_true, beq_iff_eq, Option.some.injEq] at h
  rw [h.1]

/-- the label "before" an optional left neighbour: the start of the text counts as `text` -/
def labOf {α : Type} (left : Option (Label × α)) : Label := (left.map (·.1)).getD .text

@[simp] theorem labOf_none {α : Type} : labOf (none : Option (Label × α)) = .text := rfl
@[simp] theorem labOf_some {α : Type} (x : Label × α) : labOf (some x) = x.1 := rfl

/-- `WantAfter Q p ls` : in the label list `ls` (with `p` before it) the label before a `want`
    satisfies `Q`. `Q` is what is known about that label at each level: on the labelled lines it is not
    `text` (`· ≠ .text`, from the labeller); on the groups of pass 1 and pass 2 it is a source label
    (`·.isSrc = true`), which is what pass 3 needs to find a waiting source. -/
def WantAfter (Q : Label → Prop) : Label → List Label → Prop
  | _, [] => True
  | p, l :: ls => (l = .want → Q p) ∧ WantAfter Q l ls

theorem isSrc_of_cls {l s : Label} (h : l.cls = s.cls) (hl : l.isSrc = true) : s.isSrc = true := by
  cases l <;> cases s <;> first | exact hl | rfl | cases h

/-- one pass turns the knowledge `Q` about its input into `isSrc` about its groups: a `want` group
    opens only where `cut` says so before a `want` item, and there (`hw`) `Q` of the item before it gives a
    source label; `hp` says it of the group open at the start, `hl` is the class bookkeeping of
    `runs_groupOk` -/
theorem runs_wantAfter {cut : Option Label → Label → Option Label → Bool} {Q : Label → Prop}
    (hcut : ∀ l m r, cut (some l) m r = false → m.cls = l.cls)
    (hw : ∀ l r, cut (some l) .want r = true → Q l → l.isSrc = true)
    {p s : Label} {cur : List LLine} {l : Label} {xs : List Group}
    (hp : s = .want → p.isSrc = true) (hl : l.cls = s.cls) (ht : WantAfter Q l (xs.map (·.1))) :
    WantAfter (·.isSrc = true) p ((runs cut s cur l xs).map (·.1)) := by
  induction xs generalizing p s cur l with
  | nil =>
    cases cur with
    | nil => trivial
    | cons c cs => exact ⟨hp, trivial⟩
  | cons m rest ih =>
    obtain ⟨h1, h2⟩ := ht
    rw [runs]
    split
    · rename_i hc
      refine ⟨hp, ih (fun hm => ?_) rfl h2⟩
      rw [hm] at hc
      exact isSrc_of_cls hl (hw _ _ hc (h1 hm))
    · rename_i hn
      exact ih hp (by rw [hcut _ _ _ (by simpa using hn), hl]) h2

theorem group1_flat (labeled : List LLine) : (group1 labeled).flatMap (·.2) = labeled := by
  rw [group1_eq_runs]
  cases labeled with
  | nil => rfl
  | cons x xs => simp [runs_flat, List.flatMap_map]

theorem group2_flat (groups : List Group) : (group2 groups).flatMap (·.2) = groups.flatMap (·.2) := by
  rw [group2_eq_runs]
  cases groups with
  | nil => rfl
  | cons g gs => simp [runs_flat]

theorem group1_groupOk (labeled : List LLine) : ∀ g ∈ group1 labeled, GroupOk g := by
  rw [group1_eq_runs]
  cases labeled with
  | nil => simp
  | cons x xs =>
    refine runs_groupOk cut1_cls (fun g hg => ?_) ⟨by simp, by simp⟩ rfl
    obtain ⟨p, _, rfl⟩ := List.mem_map.mp hg
    exact ⟨by simp, by simp⟩

theorem group2_groupOk (groups : List Group) (hx : ∀ g ∈ groups, GroupOk g) : ∀ g ∈ group2 groups, GroupOk g := by
  rw [group2_eq_runs]
  cases groups with
  | nil => simp
  | cons g gs => exact runs_groupOk cut2_cls (fun g' hg => hx g' (by simp [hg])) (hx g (by simp)) rfl

theorem group1_wantAfter (labeled : List LLine) (h : WantAfter (· ≠ .text) .text (labeled.map (·.1))) :
    WantAfter (·.isSrc = true) .text ((group1 labeled).map (·.1)) := by
  rw [group1_eq_runs]
  cases labeled with
  | nil => trivial
  | cons x xs =>
    refine runs_wantAfter (Q := (· ≠ .text)) cut1_cls (fun l r hc hl => ?_) (fun hx => absurd rfl (h.1 hx)) rfl ?_
    · cases l <;> first | rfl | exact absurd rfl hl | (simp [cut1] at hc)
    · simpa [List.map_map, Function.comp_def] using h.2

/-- a group before a `want` group, and the `want` group, are never merged away -/
theorem group2_wantAfter (groups : List Group) (h : WantAfter (·.isSrc = true) .text (groups.map (·.1))) :
    WantAfter (·.isSrc = true) .text ((group2 groups).map (·.1)) := by
  rw [group2_eq_runs]
  cases groups with
  | nil => trivial
  | cons g gs => exact runs_wantAfter cut2_cls (fun l r _ hl => hl) h.1 rfl h.2

def chunkLines : Chunk → List Str
  | .text ls => ls
  | .code src want => src ++ want

def chunkCls : Chunk → List (Cls × Str)
  | .text ls => ls.map (Cls.text, ·)
  | .code src want => src.map (Cls.src, ·) ++ want.map (Cls.want, ·)

def clsLine (p : LLine) : Cls × Str := (p.1.cls, p.2)

def TextNonempty (cs : List Chunk) : Prop := ∀ ls, Chunk.text ls ∈ cs → ls ≠ []

theorem map_snd_chunkCls (c : Chunk) : (chunkCls c).map (·.2) = chunkLines c := by
  cases c <;> simp [chunkCls, chunkLines, Function.comp_def]

/-- the one `assert` of the third pass: a `want` group with no source waiting -/
theorem g3Step_error {st : G3} {g : Group} {e : ParseError} (h : g3Step st g = .error e) :
    g.1 = .want ∧ st.prevSource = none ∧ e = .assertion := by
  obtain ⟨lab, lines⟩ := g
  obtain ⟨out, prev⟩ := st
  cases lab <;> cases prev <;> cases h
  exact ⟨rfl, rfl, rfl⟩

/-- the classified lines the state stands for: a waiting source block is source -/
def G3.cflat (st : G3) : List (Cls × Str) :=
  st.out.flatMap chunkCls ++ (st.prevSource.getD []).map (Cls.src, ·)

theorem g3Flush_cflat (st : G3) :
    (g3Flush st).prevSource = none ∧ (g3Flush st).out.flatMap chunkCls = st.cflat := by
  obtain ⟨out, prev⟩ := st
  cases prev <;> simp [g3Flush, G3.cflat, chunkCls]

theorem g3Step_cflat {st st' : G3} {g : Group} (hg : GroupOk g) (h : g3Step st g = .ok st') :
    st'.cflat = st.cflat ++ g.2.map clsLine := by
  obtain ⟨lab, lines⟩ := g
  have hl : lines.map clsLine = (lines.map (·.2)).map (lab.cls, ·) := by
    rw [List.map_map]
    exact List.map_congr_left fun p hp => by simp [clsLine, hg.2 p hp]
  rw [hl]
  have hf := g3Flush_cflat st
  cases lab with
  | text => cases h; simp [G3.cflat, hf.1, hf.2, chunkCls, Label.cls]
  | want =>
    obtain ⟨out, prev⟩ := st
    cases prev with
    | none => cases h
    | some src => cases h; simp [G3.cflat, chunkCls, Label.cls]
  | dsrc => cases h; simp [G3.cflat, hf.2, Label.cls]
  | dcnt => cases h; simp [G3.cflat, hf.2, Label.cls]

theorem g3Step_text {st st' : G3} {g : Group} (h : g3Step st g = .ok st') {ls : List Str}
    (hl : Chunk.text ls ∈ st'.out) : Chunk.text ls ∈ st.out ∨ ls = g.2.map (·.2) := by
  obtain ⟨lab, lines⟩ := g
  obtain ⟨out, prev⟩ := st
  have hflush : Chunk.text ls ∈ (g3Flush ⟨out, prev⟩).out → Chunk.text ls ∈ out := by
    cases prev with
    | none => exact id
    | some src => intro h; simpa [g3Flush] using h
  cases lab with
  | text =>
    cases h
    rcases List.mem_append.mp hl with hl | hl
    · exact Or.inl (hflush hl)
    · exact Or.inr (by simpa using hl)
  | want =>
    cases prev with
    | none => cases h
    | some src => cases h; exact Or.inl (by simpa using hl)
  | dsrc => cases h; exact Or.inl (hflush hl)
  | dcnt => cases h; exact Or.inl (hflush hl)

theorem group3_cls {merged : List Group} {cs : List Chunk} (hg : ∀ g ∈ merged, GroupOk g)
    (h : group3 merged = .ok cs) :
    cs.flatMap chunkCls = (merged.flatMap (·.2)).map clsLine ∧ TextNonempty cs := by
  rw [group3_eq] at h
  split at h
  · cases h
  · rename_i st hst
    have hinv := foldlM_ok_inv
      (fun pre (st : G3) => st.cflat = (pre.flatMap (·.2)).map clsLine ∧ ∀ ls, Chunk.text ls ∈ st.out → ls ≠ [])
      hst ⟨rfl, fun _ hl => by cases hl⟩
      (fun pre g rest c c1 e hi hs => by
        have hgo := hg g (by simp [e])
        refine ⟨by rw [g3Step_cflat hgo hs, hi.1]; simp, fun ls hl => ?_⟩
        rcases g3Step_text hs hl with hl | rfl
        · exact hi.2 ls hl
        · simpa using hgo.1)
    obtain ⟨out, prev⟩ := st
    obtain ⟨hc, ht⟩ := hinv
    rw [← hc]
    -- `if prev_source:` drops an empty waiting block, which holds no line
    rcases prev with _ | _ | ⟨l, ls⟩ <;> cases h
    · exact ⟨by simp [G3.cflat], ht⟩
    · exact ⟨by simp [G3.cflat], ht⟩
    · refine ⟨by simp [G3.cflat, chunkCls], fun ls' hl => ?_⟩
      rcases List.mem_append.mp hl with hl | hl
      · exact ht ls' hl
      · cases List.mem_singleton.mp hl

theorem g3Step_succeeds {st : G3} {g : Group} (h : g.1 = .want → st.prevSource.isSome = true) :
    ∃ st1, g3Step st g = .ok st1 ∧ (g.1.isSrc = true → st1.prevSource.isSome = true) := by
  obtain ⟨lab, lines⟩ := g
  obtain ⟨out, prev⟩ := st
  unfold g3Step
  cases lab with
  | text => exact ⟨_, rfl, fun h => by cases h⟩
  | want =>
    cases prev with
    | none => cases h rfl
    | some src => exact ⟨_, rfl, fun h => by cases h⟩
  | dsrc => exact ⟨_, rfl, fun _ => rfl⟩
  | dcnt => exact ⟨_, rfl, fun _ => rfl⟩

theorem g3_fold_succeeds (gs : List Group) (st : G3) (prev : Label)
    (hp : prev.isSrc = true → st.prevSource.isSome = true) (h : WantAfter (·.isSrc = true) prev (gs.map (·.1))) :
    ∃ st', gs.foldlM g3Step st = .ok st' := by
  induction gs generalizing st prev with
  | nil => exact ⟨st, rfl⟩
  | cons g gs ih =>
    obtain ⟨st1, hs, hp1⟩ := g3Step_succeeds (st := st) (g := g) (fun hw => hp (h.1 hw))
    obtain ⟨st', hst'⟩ := ih st1 g.1 hp1 h.2
    exact ⟨st', by rw [List.foldlM_cons, hs]; exact hst'⟩

theorem groupLines_cls {labeled : List LLine} {cs : List Chunk} (h : groupLines labeled = .ok cs) :
    cs.flatMap chunkCls = labeled.map clsLine := by
  unfold groupLines at h
  rw [(group3_cls (group2_groupOk _ (group1_groupOk labeled)) h).1, group2_flat, group1_flat]

theorem groupLines_flat {labeled : List LLine} {cs : List Chunk} (h : groupLines labeled = .ok cs) :
    cs.flatMap chunkLines = labeled.map (·.2) := by
  have := congrArg (List.map (·.2)) (groupLines_cls h)
  simpa [List.map_flatMap, map_snd_chunkCls, clsLine, Function.comp_def] using this

/-- so a text piece `'\n'.join(lines)` stands for `lines.length ≥ 1` lines -/
theorem groupLines_textNonempty {labeled : List LLine} {cs : List Chunk} (h : groupLines labeled = .ok cs) :
    TextNonempty cs :=
  (group3_cls (group2_groupOk _ (group1_groupOk labeled)) h).2

/-- the only error of the grouping phase is the `assert prev_source is not None` of pass 3 -/
theorem groupLines_error {labeled : List LLine} {e : ParseError} (h : groupLines labeled = .error e) :
    e = .assertion := by
  unfold groupLines at h
  rw [group3_eq] at h
  split at h
  · rename_i e' hf
    cases h
    obtain ⟨st, g, _, hs⟩ := foldlM_error hf
    exact (g3Step_error hs).2.2
  · split at h <;> cases h

/-- the `assert prev_source is not None` of pass 3 cannot fire on labelled lines in which no `want`
    comes first or directly after `text` -/
theorem groupLines_ok {out : List LLine} (h : WantAfter (· ≠ .text) .text (out.map (·.1))) :
    ∃ cs, groupLines out = .ok cs := by
  unfold groupLines
  rw [group3_eq]
  obtain ⟨st', hst'⟩ := g3_fold_succeeds _ {} .text (fun h => by cases h) (group2_wantAfter _ (group1_wantAfter _ h))
  rw [hst']
  dsimp only
  split <;> exact ⟨_, rfl⟩

end Xdoc.Parser
