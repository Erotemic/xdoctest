import XdocModel.Bracket
/-!
# Lemmas about the bracket model (`XdocModel/Bracket.lean`)

The capture bracket restores whatever the body did, so the parts loop has an invariant rule
(`partsLoop_inv`); `PythonPathContext` stores an index at which the exit finds its entry again.
-/
namespace Xdoc

theorem withCap_stdout (c : Cap) (lr : PState → Bool) (b : Body) (st : PState) (he : c.enabled = true) :
    (withCap c lr b st).1.stdout = c.orig := by
  simp [withCap, Cap.exit, Cap.stop, he]

theorem partsLoop_cons (c : Cap) (p : PartBody) (rest : List PartBody) (st : PState) :
    (partsLoop c (p :: rest) st).1 = (withCap c p.logRaises p.body st).1 ∨
    (partsLoop c (p :: rest) st).1 = (partsLoop c rest (withCap c p.logRaises p.body st).1).1 := by
  simp only [partsLoop]
  split
  · exact .inr rfl
  · split
    · exact .inr rfl
    · exact .inl rfl
  · exact .inl rfl

theorem partsLoop_inv (c : Cap) (Q : PState → Prop) (parts : List PartBody) (st : PState)
    (hstep : ∀ p ∈ parts, ∀ s, Q s → Q (withCap c p.logRaises p.body s).1) (h0 : Q st) :
    Q (partsLoop c parts st).1 := by
  induction parts generalizing st with
  | nil => exact h0
  | cons p rest ih =>
    have h1 := hstep p (by simp) st h0
    rcases partsLoop_cons c p rest st with h | h <;> rw [h]
    · exact h1
    · exact ih _ (fun q hq => hstep q (by simp [hq])) h1

theorem partsLoop_stdout (c : Cap) (he : c.enabled = true)
    (parts : List PartBody) (st : PState) (hne : parts ≠ []) :
    (partsLoop c parts st).1.stdout = c.orig := by
  cases parts with
  | nil => exact absurd rfl hne
  | cons p rest =>
    have h1 := withCap_stdout c p.logRaises p.body st he
    rcases partsLoop_cons c p rest st with h | h <;> rw [h]
    · exact h1
    · exact partsLoop_inv c (·.stdout = c.orig) rest _ (fun q _ s _ => withCap_stdout c _ _ s he) h1

theorem withCap_stderr (c : Cap) (lr : PState → Bool) (b : Body) (st : PState) :
    (withCap c lr b st).1.stderr = (b (c.start st)).1.stderr := by
  simp only [withCap, Cap.exit, Cap.stop]
  split <;> rfl

theorem Cap.start_stderr (c : Cap) (s : PState) : (c.start s).stderr = s.stderr := by
  unfold Cap.start; split <;> rfl

theorem partsLoop_stderr (c : Cap) (parts : List PartBody) (st : PState)
    (hb : ∀ p ∈ parts, ∀ s, (p.body s).1.stderr = s.stderr) :
    (partsLoop c parts st).1.stderr = st.stderr :=
  partsLoop_inv c (·.stderr = st.stderr) parts st
    (fun p hp s hs => by rw [withCap_stderr, hb p hp, Cap.start_stderr, hs]) rfl

theorem ppcEnterIndex_spec (len : Nat) (index : Int) :
    0 ≤ ppcEnterIndex len index ∧ (index ≤ len → ppcEnterIndex len index ≤ len) ∧
    ((len : Int) < index → ppcEnterIndex len index = index) := by
  unfold ppcEnterIndex
  split
  · split <;> omega
  · omega

theorem pyInsertPos_nonneg (len : Nat) (i : Int) (h : 0 ≤ i) : pyInsertPos len i = min i.toNat len := by
  unfold pyInsertPos
  rw [if_neg (by omega)]
  split <;> omega

theorem pyIndexPos_nonneg (len : Nat) (i : Int) (h0 : 0 ≤ i) (h1 : i < len) : pyIndexPos len i = some i.toNat := by
  unfold pyIndexPos
  rw [if_neg (by omega), if_pos (by omega)]

theorem ppcExit_after_insert (w : Bool) (dpath : String) (path : List String) (idx : Int)
    (h0 : 0 ≤ idx) (h1 : idx ≤ path.length) :
    ppcExit w dpath idx (pyInsert path idx dpath) = (path, .clean) := by
  have hk : idx.toNat ≤ path.length := by omega
  unfold pyInsert
  rw [pyInsertPos_nonneg _ _ h0, Nat.min_eq_left hk]
  unfold ppcExit
  rw [List.length_insertIdx_of_le_length hk, if_neg (by omega), pyIndexPos_nonneg _ _ h0 (by omega)]
  simp [List.getElem?_insertIdx_self, hk, List.eraseIdx_insertIdx_self]

theorem ppcRecover_eq (w : Bool) (d : String) (path : List String) :
    ppcRecover w d path =
      if d ∈ path then (path.erase d, if w then .warnRaised else .recovered) else (path, .runtimeError) := by
  unfold ppcRecover
  rw [List.erase_eq_eraseIdx]
  cases h : path.idxOf? d with
  | none => rw [if_neg (List.idxOf?_eq_none_iff.mp h)]
  | some k =>
    have : d ∈ path := by
      obtain ⟨hk, hget, _⟩ := List.idxOf?_eq_some_iff.mp h
      exact hget ▸ List.getElem_mem hk
    rw [if_pos this]

theorem eraseIdx_one_occurrence (d : String) (l : List String) (k : Nat) (h : l[k]? = some d) :
    (l.eraseIdx k).filter (· ≠ d) = l.filter (· ≠ d) ∧ (l.eraseIdx k).count d + 1 = l.count d := by
  induction l generalizing k with
  | nil => simp at h
  | cons x xs ih =>
    cases k with
    | zero =>
      simp at h; subst h
      simp
    | succ k =>
      simp at h
      obtain ⟨h1, h2⟩ := ih k h
      simp only [List.eraseIdx_cons_succ, List.filter_cons, List.count_cons]
      constructor
      · rw [h1]
      · omega

theorem withPPC_far_index (dpath : String) (index : Int) (body : Body) (st : PState) (w : Bool)
    (hbody : ∀ s, (body s).1.sysPath = s.sysPath) (hhi : (st.sysPath.length : Int) < index) :
    (withPPC dpath index body st w).1.sysPath = (st.sysPath ++ [dpath]).erase dpath ∧
    (withPPC dpath index body st w).2.2 = (if w then .warnRaised else .recovered) := by
  have hins : pyInsert st.sysPath index dpath = st.sysPath ++ [dpath] := by
    unfold pyInsert
    rw [pyInsertPos_nonneg _ _ (by omega), Nat.min_eq_right (by omega), List.insertIdx_length_self]
  have hex : ppcExit w dpath index (st.sysPath ++ [dpath]) =
      ((st.sysPath ++ [dpath]).erase dpath, if w then .warnRaised else .recovered) := by
    unfold ppcExit
    rw [if_pos (by simp; omega), ppcRecover_eq, if_pos (by simp)]
  simp [withPPC, ppcEnter, (ppcEnterIndex_spec _ _).2.2 hhi, hins, hbody, hex]

end Xdoc
