import XdocModel.Re.Ellipsis
import XdocModel.Lemmas.Str
/-! The ellipsis matcher (C06). `Scattered` specifies the in-order search of the middle pieces;
`pieces sep` is `re.split` as a plain recursion on the text, from which the recursion equations of
`splitEllipsis` and the induction along its scan are read off. -/
namespace Xdoc
open Py Re

variable {α : Type}

namespace Re

/-- `s` contains the pieces in order, non overlapping, anything in between and after -/
inductive Scattered : List (List α) → List α → Prop
  | nil (s) : Scattered [] s
  | cons (x w ws r) : Scattered ws r → Scattered (w :: ws) (x ++ w ++ r)

theorem Scattered.prepend {ws : List (List α)} {r : List α} (y : List α)
    (h : Scattered ws r) : Scattered ws (y ++ r) := by
  cases h with
  | nil => exact .nil _
  | cons x w ws r h =>
    have : y ++ (x ++ w ++ r) = (y ++ x) ++ w ++ r := by simp
    rw [this]; exact .cons _ _ _ _ h

theorem Scattered.append {α : Type} {ws : List (List α)} {r : List α} (t : List α)
    (h : Scattered ws r) : Scattered ws (r ++ t) := by
  induction h with
  | nil s => exact .nil _
  | cons x w ws r _ ih =>
    have : x ++ w ++ r ++ t = x ++ w ++ (r ++ t) := by simp
    rw [this]; exact .cons _ _ _ _ ih

theorem Scattered.infix_of_mem {ws : List (List α)} {m p : List α} (h : Scattered ws m)
    (hp : p ∈ ws) : p <:+: m := by
  induction h with
  | nil s => cases hp
  | cons x w ws r _ ih =>
    rcases List.mem_cons.mp hp with rfl | hp
    · exact ⟨x, r, rfl⟩
    · exact (ih hp).trans ⟨x ++ w, [], by simp⟩

variable [DecidableEq α]

theorem findAfter_of_prefix {w s r : List α} (h : dropPrefix? w s = some r) :
    findAfter w s = some r := by
  cases s <;> simp [findAfter, h]

theorem findAfter_some {w s r : List α} (h : findAfter w s = some r) :
    ∃ x, s = x ++ w ++ r := by
  induction s with
  | nil => exact ⟨[], by simpa using dropPrefix?_eq_some.mp h⟩
  | cons c s ih =>
    simp only [findAfter] at h
    split at h
    · rename_i r' hr
      cases h
      exact ⟨[], by simpa using dropPrefix?_eq_some.mp hr⟩
    · obtain ⟨x, hx⟩ := ih h
      exact ⟨c :: x, by simp [hx]⟩

/-- the leftmost occurrence leaves the longest remainder -/
theorem findAfter_complete {w : List α} : ∀ (x r : List α),
    ∃ r' y, findAfter w (x ++ w ++ r) = some r' ∧ r' = y ++ r := by
  intro x
  induction x with
  | nil => exact fun r => ⟨r, [], findAfter_of_prefix (dropPrefix?_append w r), rfl⟩
  | cons c x ih =>
    intro r
    simp only [List.cons_append, findAfter]
    split
    · -- an occurrence starts here already: both remainders are suffixes, the found one is longer
      rename_i r' hr
      have h1 := dropPrefix?_eq_some.mp hr
      have hlen : r.length ≤ r'.length := by
        have := congrArg List.length h1
        simp at this; omega
      have hs : r <:+ (c :: (x ++ w ++ r)) := ⟨c :: (x ++ w), by simp⟩
      rw [h1] at hs
      obtain ⟨y, hy⟩ := List.suffix_of_suffix_length_le hs (List.suffix_append w r') hlen
      exact ⟨r', y, rfl, hy.symm⟩
    · obtain ⟨r', y, h1, h2⟩ := ih r
      exact ⟨r', y, by simpa using h1, h2⟩

theorem matchMid_iff (ws : List (List α)) (s : List α) :
    matchMid ws s = true ↔ Scattered ws s := by
  induction ws generalizing s with
  | nil => simp [matchMid]; exact .nil _
  | cons w ws ih =>
    simp only [matchMid]
    constructor
    · intro h
      split at h
      · cases h
      · rename_i r hr
        obtain ⟨x, rfl⟩ := findAfter_some hr
        exact .cons _ _ _ _ ((ih r).mp h)
    · intro h
      cases h with
      | cons x w ws r h =>
        obtain ⟨r', y, h1, rfl⟩ := findAfter_complete (w := w) x r
        rw [h1]
        exact (ih _).mpr (h.prepend y)

theorem ellipsisPieces_iff (first last : List α) (mids : List (List α)) (got : List α) :
    ellipsisPieces first mids last got = true ↔
      ∃ mid, got = first ++ mid ++ last ∧ Scattered mids mid := by
  unfold ellipsisPieces
  constructor
  · intro h
    split at h
    · cases h
    · rename_i rest h1
      split at h
      · cases h
      · rename_i midRev h2
        have e1 := dropPrefix?_eq_some.mp h1
        have e2 := dropPrefix?_eq_some.mp h2
        refine ⟨midRev.reverse, ?_, (matchMid_iff _ _).mp h⟩
        -- the model takes `last` off the end by taking its reverse off the reversed text
        have : rest = midRev.reverse ++ last := by
          have := congrArg List.reverse e2
          simpa using this
        rw [e1, this]; simp
  · rintro ⟨mid, rfl, h⟩
    have h1 : dropPrefix? first (first ++ mid ++ last) = some (mid ++ last) :=
      dropPrefix?_eq_some.mpr (by simp)
    rw [h1]
    have h2 : dropPrefix? last.reverse (mid ++ last).reverse = some mid.reverse :=
      dropPrefix?_eq_some.mpr (by simp)
    simp only [h2, List.reverse_reverse]
    exact (matchMid_iff _ _).mpr h

/-! `re.split(r'\s*\.\.\.\s*', want)` (xdoctest) and `want.split('...')` (the standard module) are the same
scan with a different separator: `sep s` recognises a separator at the start of `s` and returns the
text after it. `pieces sep` is that scan as a plain recursion on the text; the model functions, which
carry fuel and an accumulator (`splitBy` is their common shape), compute it. -/

def prependHead (x : Str) : List Str → List Str
  | [] => [x]
  | p :: ps => (x ++ p) :: ps

theorem prependHead_prependHead (x y : Str) (L : List Str) :
    prependHead x (prependHead y L) = prependHead (x ++ y) L := by
  cases L <;> simp [prependHead]

theorem prependHead_nil {L : List Str} (h : L ≠ []) : prependHead [] L = L := by
  cases L with
  | nil => exact absurd rfl h
  | cons p ps => rfl

/-- The test on the lengths only serves termination; it holds for a separator that is not empty. -/
def pieces (sep : Str → Option Str) : Str → List Str
  | [] => [[]]
  | c :: s =>
    match sep (c :: s) with
    | some rest => if _h : rest.length < (c :: s).length then [] :: pieces sep rest else [[]]
    | none => prependHead [c] (pieces sep s)
termination_by s => s.length

def splitBy (sep : Str → Option Str) : Nat → Str → Str → List Str
  | 0, _, acc => [acc.reverse]
  | _, [], acc => [acc.reverse]
  | fuel + 1, c :: s, acc =>
    match sep (c :: s) with
    | some rest => acc.reverse :: splitBy sep fuel rest []
    | none => splitBy sep fuel s (c :: acc)

section
variable {sep : Str → Option Str}

theorem pieces_some (hsep : ∀ s r, sep s = some r → r.length < s.length) {s rest : Str}
    (h : sep s = some rest) : pieces sep s = [] :: pieces sep rest := by
  have hl := hsep _ _ h
  cases s with
  | nil => simp at hl
  | cons c s => rw [pieces, h]; exact dif_pos hl

theorem pieces_none {c : Char} {s : Str} (h : sep (c :: s) = none) :
    pieces sep (c :: s) = prependHead [c] (pieces sep s) := by
  rw [pieces, h]

theorem pieces_ne_nil (s : Str) : pieces sep s ≠ [] := by
  cases s with
  | nil => simp [pieces]
  | cons c s =>
    rw [pieces]
    cases sep (c :: s) with
    | some rest => simp only; split <;> simp
    | none => cases pieces sep s <;> simp [prependHead]

theorem splitBy_eq_pieces (hsep : ∀ s r, sep s = some r → r.length < s.length) :
    ∀ (fuel : Nat) (s acc : Str), s.length ≤ fuel →
      splitBy sep fuel s acc = prependHead acc.reverse (pieces sep s) := by
  -- the accumulator is what `splitBy` has read of the current piece; it goes in front of the first
  -- piece of what `pieces` makes of the rest
  intro fuel
  induction fuel with
  | zero =>
    intro s acc h
    rw [List.eq_nil_of_length_eq_zero (Nat.le_zero.mp h)]
    simp [splitBy, pieces, prependHead]
  | succ n ih =>
    intro s acc hlen
    cases s with
    | nil => simp [splitBy, pieces, prependHead]
    | cons c s =>
      simp only [List.length_cons] at hlen
      simp only [splitBy]
      cases hs : sep (c :: s) with
      | some rest =>
        have hl := hsep _ _ hs
        simp only [List.length_cons] at hl
        simp only
        rw [pieces_some hsep hs, ih rest [] (by omega), List.reverse_nil,
          prependHead_nil (pieces_ne_nil rest)]
        simp [prependHead]
      | none =>
        simp only
        rw [pieces_none hs, ih s (c :: acc) (by omega), prependHead_prependHead, List.reverse_cons]

end

/-- the text after a whole separator `\s*\.\.\.\s*` at the start of `s` -/
def sepEnd (s : Str) : Option Str := (sepStart s).map (·.dropWhile isSpace)

theorem splitEllipsisGo_eq_splitBy (fuel : Nat) (s acc : Str) :
    splitEllipsisGo fuel s acc = splitBy sepEnd fuel s acc := by
  induction fuel generalizing s acc with
  | zero => rfl
  | succ n ih =>
    cases s with
    | nil => rfl
    | cons c s => cases h : sepStart (c :: s) <;> simp [splitEllipsisGo, splitBy, sepEnd, h, ih]

theorem sepStart_eq_some_iff {s rest : Str} :
    sepStart s = some rest ↔ s.dropWhile isSpace = dots ++ rest := by
  simp [sepStart, dropPrefix?_eq_some]

theorem sepStart_cons_space {c : Char} (hc : isSpace c = true) (s : Str) :
    sepStart (c :: s) = sepStart s := by simp [sepStart, hc]

theorem sepStart_cons_nonspace {c : Char} (hc : isSpace c = false) (s : Str) :
    sepStart (c :: s) = dropPrefix? dots (c :: s) := by simp [sepStart, hc]

theorem sepStart_none_of_plain {c : Char} (h1 : isSpace c = false) (h2 : c ≠ '.') (s : Str) :
    sepStart (c :: s) = none := by
  rw [sepStart_cons_nonspace h1]
  simp [dots, dropPrefix?, Ne.symm h2]

theorem dropPrefix?_dots_space {c : Char} (s : Str) (hc : isSpace c = true) :
    dropPrefix? dots (c :: s) = none := by
  have : c ≠ '.' := fun e => by rw [e, isSpace_dot] at hc; cases hc
  simp [dots, dropPrefix?, Ne.symm this]

theorem sepStart_none_dots {s : Str} (h : sepStart s = none) : dropPrefix? dots s = none := by
  cases s with
  | nil => rfl
  | cons c s =>
    by_cases hc : isSpace c = true
    · exact dropPrefix?_dots_space s hc
    · rwa [sepStart_cons_nonspace (by simpa using hc)] at h

theorem sepStart_decomp {s rest : Str} (h : sepStart s = some rest) :
    ∃ ws ws2, (∀ c ∈ ws, isSpace c = true) ∧ (∀ c ∈ ws2, isSpace c = true) ∧
      s = ws ++ dots ++ (ws2 ++ rest.dropWhile isSpace) := by
  refine ⟨s.takeWhile isSpace, rest.takeWhile isSpace, fun c hc => mem_takeWhile_pos hc,
    fun c hc => mem_takeWhile_pos hc, ?_⟩
  rw [List.takeWhile_append_dropWhile, List.append_assoc, ← sepStart_eq_some_iff.mp h,
    List.takeWhile_append_dropWhile]

theorem sepEnd_shorter : ∀ s r, sepEnd s = some r → r.length < s.length := by
  intro s r h
  obtain ⟨rest, hs, rfl⟩ := Option.map_eq_some_iff.mp h
  obtain ⟨ws, ws2, _, _, hs'⟩ := sepStart_decomp hs
  have := congrArg List.length hs'
  simp [dots] at this
  omega

theorem splitEllipsis_eq_pieces (s : Str) : splitEllipsis s = pieces sepEnd s := by
  rw [splitEllipsis, splitEllipsisGo_eq_splitBy, splitBy_eq_pieces sepEnd_shorter _ _ _ (Nat.le_refl _)]
  exact prependHead_nil (pieces_ne_nil s)

theorem splitEllipsis_nil : splitEllipsis [] = [[]] := rfl

theorem splitEllipsis_some {s rest : Str} (h : sepStart s = some rest) :
    splitEllipsis s = [] :: splitEllipsis (rest.dropWhile isSpace) := by
  rw [splitEllipsis_eq_pieces, splitEllipsis_eq_pieces,
    pieces_some sepEnd_shorter (rest := rest.dropWhile isSpace) (by simp [sepEnd, h])]

theorem splitEllipsis_none {c : Char} {s : Str} (h : sepStart (c :: s) = none) :
    splitEllipsis (c :: s) = prependHead [c] (splitEllipsis s) := by
  rw [splitEllipsis_eq_pieces, splitEllipsis_eq_pieces, pieces_none (by simp [sepEnd, h])]

theorem splitEllipsis_ne_nil (s : Str) : splitEllipsis s ≠ [] := by
  rw [splitEllipsis_eq_pieces]; exact pieces_ne_nil s

theorem splitEllipsis_induction {motive : Str → Prop} (nil : motive [])
    (sep : ∀ s rest, sepStart s = some rest →
      splitEllipsis s = [] :: splitEllipsis (rest.dropWhile isSpace) →
      motive (rest.dropWhile isSpace) → motive s)
    (chr : ∀ c s p ps, sepStart (c :: s) = none → splitEllipsis s = p :: ps →
      splitEllipsis (c :: s) = (c :: p) :: ps → motive s → motive (c :: s))
    (s : Str) : motive s := by
  induction s using pieces.induct (sep := sepEnd) with
  | case1 => exact nil
  | case2 c s rest h _ ih =>
    obtain ⟨r, hs, rfl⟩ := Option.map_eq_some_iff.mp h
    exact sep _ r hs (splitEllipsis_some hs) ih
  | case3 c s rest h hl => exact absurd (sepEnd_shorter _ _ h) hl
  | case4 c s h ih =>
    have hs : sepStart (c :: s) = none := Option.map_eq_none_iff.mp h
    obtain ⟨p, ps, e⟩ := List.exists_cons_of_ne_nil (splitEllipsis_ne_nil s)
    exact chr c s p ps hs e (by rw [splitEllipsis_none hs, e]; rfl) ih

/-- so the `assert len(ws) >= 2` of `_ellipsis_match` never fires -/
theorem contains_dots_iff_two_le_length (s : Str) :
    contains dots s = true ↔ 2 ≤ (splitEllipsis s).length := by
  induction s using splitEllipsis_induction with
  | nil => exact ⟨fun h => (by cases h), fun h => (by simp [splitEllipsis_nil] at h)⟩
  | sep s rest hs e _ =>
    obtain ⟨ws, ws2, _, _, hs'⟩ := sepStart_decomp hs
    obtain ⟨p, ps, e2⟩ := List.exists_cons_of_ne_nil (splitEllipsis_ne_nil (rest.dropWhile isSpace))
    refine ⟨fun _ => by simp [e, e2], fun _ => contains_iff.mpr ⟨ws, _, hs'.symm⟩⟩
  | chr c s p ps hs e e' ih =>
    have : startsWith dots (c :: s) = false := by simp [startsWith, sepStart_none_dots hs]
    rw [contains, this, Bool.false_or, ih, e, e']
    simp

theorem splitEllipsis_head_prefix {s p : Str} {ps : List Str} :
    splitEllipsis s = p :: ps → p <+: s := by
  induction s using splitEllipsis_induction generalizing p ps with
  | nil => intro h; cases h; exact List.prefix_refl _
  | sep s rest hs e _ => intro h; rw [e] at h; cases h; exact List.nil_prefix
  | chr c s p0 ps0 hs e e' ih =>
    intro h
    rw [e'] at h; cases h
    exact List.cons_prefix_cons.mpr ⟨rfl, ih e⟩

theorem plain_prefix_first_piece {u : Str} (hu : ∀ c ∈ u, isSpace c = false ∧ c ≠ '.') :
    ∀ {s p : Str} {ps : List Str}, splitEllipsis s = p :: ps → u <+: s → u <+: p := by
  induction u with
  | nil => intro _ _ _ _ _; exact List.nil_prefix
  | cons c u ih =>
    intro s p ps hsp h
    cases s with
    | nil => simp at h
    | cons e s =>
      obtain ⟨rfl, h2⟩ := List.cons_prefix_cons.mp h
      obtain ⟨hc1, hc2⟩ := hu c (by simp)
      obtain ⟨p0, ps0, e0⟩ := List.exists_cons_of_ne_nil (splitEllipsis_ne_nil s)
      rw [splitEllipsis_none (sepStart_none_of_plain hc1 hc2 s), e0] at hsp
      cases hsp
      exact List.cons_prefix_cons.mpr ⟨rfl, ih (fun x hx => hu x (by simp [hx])) e0 h2⟩

theorem ellipsisMatch_no_dots {got want : Str} (h : contains dots want = false) :
    ellipsisMatch got want = true ↔ got = want := by
  unfold ellipsisMatch
  simp only [h, Bool.not_false, ↓reduceIte, beq_iff_eq]
  exact eq_comm

theorem splitEllipsis_first_last {want : Str} (h : contains dots want = true) :
    ∃ first mids last, splitEllipsis want = first :: (mids ++ [last]) := by
  have hl := (contains_dots_iff_two_le_length want).mp h
  match hs : splitEllipsis want with
  | [] => simp [hs] at hl
  | [_] => simp [hs] at hl
  | first :: b :: rest =>
    exact ⟨first, (b :: rest).dropLast, (b :: rest).getLast (by simp),
      by rw [List.dropLast_concat_getLast]⟩

/-- the model takes the middle pieces and the last one from the list by `dropLast` / `getLast?`;
    on a list of the form `first :: (mids ++ [last])` these are `mids` and `last` -/
theorem ellipsisMatch_of_split {got want first last : Str} {mids : List Str}
    (hs : splitEllipsis want = first :: (mids ++ [last])) :
    ellipsisMatch got want = ellipsisPieces first mids last got := by
  have h : contains dots want = true := (contains_dots_iff_two_le_length want).mpr (by simp [hs])
  unfold ellipsisMatch
  simp only [h, Bool.not_true, Bool.false_eq_true, ↓reduceIte, hs]
  cases hm : mids ++ [last] with
  | nil => simp at hm
  | cons a as => simp only; rw [← hm, List.dropLast_concat, List.getLast?_concat, Option.getD_some]

theorem ellipsisMatch_iff {got want : Str} (h : contains dots want = true) :
    ellipsisMatch got want = true ↔
      ∃ first mids last, splitEllipsis want = first :: (mids ++ [last]) ∧
        ∃ mid, got = first ++ mid ++ last ∧ Scattered mids mid := by
  constructor
  · intro hm
    obtain ⟨first, mids, last, hs⟩ := splitEllipsis_first_last h
    exact ⟨first, mids, last, hs, (ellipsisPieces_iff ..).mp (ellipsisMatch_of_split hs ▸ hm)⟩
  · rintro ⟨first, mids, last, hs, hp⟩
    rw [ellipsisMatch_of_split hs]; exact (ellipsisPieces_iff ..).mpr hp

theorem ellipsisMatch_map (φ : Str → Str) {a b : Str}
    (hs : splitEllipsis (φ b) = (splitEllipsis b).map φ)
    (hφ : ∀ first mids last mid, Scattered mids mid →
      ∃ mid', φ (first ++ mid ++ last) = φ first ++ mid' ++ φ last ∧ Scattered (mids.map φ) mid')
    (h : ellipsisMatch a b = true) : ellipsisMatch (φ a) (φ b) = true := by
  -- `...` occurs in the image iff it occurs in the want: same number of pieces
  have hc : contains dots (φ b) = contains dots b := by
    rw [Bool.eq_iff_iff, contains_dots_iff_two_le_length, contains_dots_iff_two_le_length, hs]; simp
  by_cases hd : contains dots b = true
  · obtain ⟨first, mids, last, hsp, mid, rfl, hm⟩ := (ellipsisMatch_iff hd).mp h
    obtain ⟨mid', h2, h3⟩ := hφ first mids last mid hm
    exact (ellipsisMatch_iff (hc.trans hd)).mpr
      ⟨_, _, _, by rw [hs, hsp]; simp, mid', h2, h3⟩
  · have hd0 : contains dots b = false := by simpa using hd
    have := (ellipsisMatch_no_dots hd0).mp h
    subst this
    exact (ellipsisMatch_no_dots (hc.trans hd0)).mpr rfl

end Re

namespace Std
theorem dots_not_space : ∀ c ∈ dots, isSpace c = false := by simp [dots, isSpace_dot]
end Std
end Xdoc
