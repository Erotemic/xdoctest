import XdocModel.Checker
import XdocModel.Lemmas.Ellipsis
/-!
# `collapse` (`' '.join(s.split())`) against the ellipsis split (C05 monotonicity)

`collapse` is a three-state transducer (`run`), hence compositional over `++`
(`run_append`); every fact about collapsed text in the development goes through it.
-/
namespace Xdoc
open Py Re

namespace Py

/-- where the scan is: nothing emitted yet / inside a word / after a word, in whitespace -/
inductive WsSt where
  | start | word | gap
  deriving DecidableEq, Repr

def WsSt.sp : WsSt → WsSt
  | .start => .start
  | .word => .gap
  | .gap => .gap

/-- what a non-space character emits, the pending blank first -/
def WsSt.out : WsSt → Char → Str
  | .gap, c => [' ', c]
  | _, c => [c]

/-- the collapse transducer: what `collapse` emits for `s` when started in state `σ`
    (`collapse s = run .start s`); `fin` is the state it ends in -/
def run : WsSt → Str → Str
  | _, [] => []
  | σ, c :: s => if isSpace c then run σ.sp s else σ.out c ++ run .word s

def fin : WsSt → Str → WsSt
  | σ, [] => σ
  | σ, c :: s => if isSpace c then fin σ.sp s else fin .word s

theorem run_append (σ : WsSt) (u v : Str) :
    run σ (u ++ v) = run σ u ++ run (fin σ u) v := by
  induction u generalizing σ with
  | nil => simp [run, fin]
  | cons c u ih =>
    by_cases hc : isSpace c = true <;> simp [run, fin, hc, ih]

theorem fin_append (σ : WsSt) (u v : Str) :
    fin σ (u ++ v) = fin (fin σ u) v := by
  induction u generalizing σ with
  | nil => simp [fin]
  | cons c u ih =>
    by_cases hc : isSpace c = true <;> simp [fin, hc, ih]

theorem run_cons_space {c : Char} (hc : isSpace c = true) (σ : WsSt) (s : Str) :
    run σ (c :: s) = run σ.sp s := by simp [run, hc]

theorem run_cons_nonspace {c : Char} (hc : isSpace c = false) (σ : WsSt) (s : Str) :
    run σ (c :: s) = σ.out c ++ run .word s := by simp [run, hc]

theorem wordsAux_ne_nil (acc s : Str) (h : acc ≠ []) : wordsAux acc s ≠ [] := by
  induction s generalizing acc with
  | nil => simp [wordsAux, h]
  | cons c s ih =>
    simp only [wordsAux]
    split
    · simp [h]
    · exact ih _ (by simp)

/-- one conjunct per state: the accumulator of `wordsAux` is empty before the first word, holds the
    current word inside one, and is empty again, a word already emitted, in a gap -/
theorem wordsAux_run (s : Str) :
    joinWith [' '] (wordsAux [] s) = run .start s ∧
    (∀ acc, acc ≠ [] → joinWith [' '] (wordsAux acc s) = acc.reverse ++ run .word s) ∧
    (∀ x, joinWith [' '] (x :: wordsAux [] s) = x ++ run .gap s) := by
  induction s with
  | nil =>
    refine ⟨by simp [wordsAux, joinWith, run], ?_,
      by simp [wordsAux, joinWith, run]⟩
    intro acc h
    simp [wordsAux, h, joinWith, run]
  | cons c s ih =>
    obtain ⟨ih1, ih2, ih3⟩ := ih
    by_cases hc : isSpace c = true
    · refine ⟨?_, ?_, ?_⟩
      · simp [wordsAux, hc, run, WsSt.sp, ih1]
      · intro acc h
        simp [wordsAux, hc, h, run, WsSt.sp, ih3]
      · intro x
        simp [wordsAux, hc, run, WsSt.sp, ih3]
    · have hc' : isSpace c = false := by simpa using hc
      have e1 : joinWith [' '] (wordsAux [c] s) = [c] ++ run .word s := by
        simpa using ih2 [c] (by simp)
      refine ⟨?_, ?_, ?_⟩
      · simp [wordsAux, hc', run, WsSt.out, e1]
      · intro acc h
        have := ih2 (c :: acc) (by simp)
        simp [wordsAux, hc', run, WsSt.out, this]
      · intro x
        have hne : wordsAux [c] s ≠ [] := wordsAux_ne_nil _ _ (by simp)
        simp [wordsAux, hc', run, WsSt.out, joinWith_cons_ne _ _ hne, e1]

theorem collapse_eq_run (s : Str) : collapse s = run .start s := by
  simp [collapse, words, (wordsAux_run s).1]

theorem collapse_eq : collapse = run .start := funext collapse_eq_run

theorem deleteWs_run (σ : WsSt) (s : Str) : deleteWs (run σ s) = deleteWs s := by
  induction s generalizing σ with
  | nil => rfl
  | cons c s ih =>
    by_cases hc : isSpace c = true
    · rw [run_cons_space hc, ih]; simp [deleteWs, hc]
    · have hc' : isSpace c = false := by simpa using hc
      rw [run_cons_nonspace hc', deleteWs_append, ih]
      cases σ <;> simp [WsSt.out, deleteWs, hc', isSpace_space]

theorem deleteWs_collapse (s : Str) : deleteWs (collapse s) = deleteWs s := by
  rw [collapse_eq_run, deleteWs_run]

theorem run_gap_head (s : Str) :
    run .gap s = [] ∨ ∃ r, run .gap s = ' ' :: r := by
  induction s with
  | nil => simp [run]
  | cons c s ih =>
    by_cases hc : isSpace c = true
    · simpa [run, hc, WsSt.sp] using ih
    · simp [run, hc, WsSt.out]

/-- inside a word the transducer copies text without whitespace -/
theorem dropPrefix?_run_word {u : Str} (hu : ∀ c ∈ u, isSpace c = false) :
    ∀ t, dropPrefix? u (run .word t) = (dropPrefix? u t).map (run .word) := by
  induction u with
  | nil => intro t; rfl
  | cons d u ih =>
    intro t
    have hd := hu d (by simp)
    cases t with
    | nil => rfl
    | cons e t =>
      by_cases he : isSpace e = true
      · -- the output is empty or starts with the blank of the gap state
        have hde : d ≠ e := fun h => by rw [h, he] at hd; cases hd
        have hdb : d ≠ ' ' := fun h => by rw [h, isSpace_space] at hd; cases hd
        rw [run_cons_space he]
        rcases run_gap_head t with h0 | ⟨r, h0⟩ <;> simp [WsSt.sp, h0, dropPrefix?, hde,
          hdb]
      · rw [run_cons_nonspace (by simpa using he)]
        simp only [WsSt.out, List.singleton_append, dropPrefix?]
        split
        · exact ih (fun c hc => hu c (by simp [hc])) t
        · rfl

theorem dropWhile_run (σ : WsSt) (s : Str) :
    (run σ s).dropWhile isSpace = run .start (s.dropWhile isSpace) := by
  induction s generalizing σ with
  | nil => simp [run]
  | cons c s ih =>
    by_cases hc : isSpace c = true
    · simp [run, hc, ih]
    · cases σ <;> simp [run, hc, WsSt.out, isSpace_space]

theorem run_suffix (σ : WsSt) (w : Str) :
    ∃ pre, run σ w = pre ++ run .start w := by
  induction w generalizing σ with
  | nil => exact ⟨[], rfl⟩
  | cons c t ih =>
    by_cases hc : isSpace c = true
    · rw [run_cons_space hc, run_cons_space hc]; exact ih σ.sp
    · rw [run_cons_nonspace (by simpa using hc),
      run_cons_nonspace (by simpa using hc)]
      cases σ
      · exact ⟨[], rfl⟩
      · exact ⟨[], rfl⟩
      · exact ⟨[' '], rfl⟩

theorem run_nl (σ : WsSt) (X : Str) :
    run σ ('\n' :: X) = run σ.sp X := run_cons_space isSpace_nl σ X

theorem WsSt.sp_sp (σ : WsSt) : σ.sp.sp = σ.sp := by cases σ <;> rfl

/-- for `σ.sp` and not `σ`: from `word` the first blank does change the state -/
theorem run_ws {ws : Str} (h : ∀ c ∈ ws, isSpace c = true) (σ : WsSt) (X : Str) :
    run σ.sp (ws ++ X) = run σ.sp X := by
  induction ws with
  | nil => rfl
  | cons c ws ih =>
    rw [List.cons_append, run_cons_space (h c (by simp)), WsSt.sp_sp]
    exact ih fun d hd => h d (by simp [hd])

def hdSp : Str → Bool
  | [] => true
  | c :: _ => isSpace c

theorem run_sp_of_hdSp {t : Str} (h : hdSp t = true) (σ : WsSt) :
    run σ.sp t = run σ t := by
  cases t with
  | nil => rfl
  | cons d t => rw [run_cons_space h, run_cons_space h, WsSt.sp_sp]

theorem run_ws_hdSp {ws t : Str} (h : ∀ c ∈ ws, isSpace c = true) (ht : hdSp t = true)
    (σ : WsSt) :
    run σ (ws ++ t) = run σ t := by
  cases ws with
  | nil => rfl
  | cons c ws =>
    rw [List.cons_append, run_cons_space (h c (by simp)),
      run_ws fun d hd => h d (by simp [hd]),
      run_sp_of_hdSp ht]

/-- `TRAILING_WS`, one character at a time: a blank is dropped when what follows (already
    processed) is empty or starts with a newline -/
theorem stripTrailingWs_cons (c : Char) (s : Str) :
    (stripTrailingWs (c :: s) = stripTrailingWs s ∧ isBlank c = true ∧
        hdSp (stripTrailingWs s) = true) ∨
      stripTrailingWs (c :: s) = c :: stripTrailingWs s := by
  cases hr : stripTrailingWs s with
  | nil =>
    simp only [stripTrailingWs, hr, Bool.and_true]
    split
    · rename_i hc; exact .inl ⟨rfl, hc, rfl⟩
    · exact .inr rfl
  | cons d r =>
    simp only [stripTrailingWs, hr]
    split
    · rename_i hc
      simp only [Bool.and_eq_true, beq_iff_eq] at hc
      exact .inl ⟨rfl, hc.1, by rw [hdSp, hc.2]; exact isSpace_nl⟩
    · exact .inr rfl

theorem run_stripTrailingWs (s : Str) :
    ∀ σ, run σ (stripTrailingWs s) = run σ s := by
  induction s with
  | nil => intro σ; rfl
  | cons c s ih =>
    intro σ
    rcases stripTrailingWs_cons c s with ⟨e, hc, hr⟩ | e
    · rw [e, run_cons_space (isBlank_isSpace hc), ← ih, run_sp_of_hdSp hr]
    · rw [e]; simp only [run, ih]

theorem stripTrailingWs_sublist (s : Str) : (stripTrailingWs s).Sublist s := by
  induction s with
  | nil => exact .slnil
  | cons c s ih =>
    rcases stripTrailingWs_cons c s with ⟨e, _, _⟩ | e
    · rw [e]; exact ih.cons c
    · rw [e]; exact ih.cons_cons c

theorem run_rstrip (s : Str) (σ : WsSt) :
    run σ (rstrip s) = run σ s := by
  obtain ⟨ws, hws, hs⟩ := rstrip_append_ws s
  have := run_ws_hdSp (t := []) hws rfl (fin σ (rstrip s))
  rw [List.append_nil] at this
  conv => rhs; rw [hs, run_append, this]
  simp [run]

/-- the always-on trailing-whitespace removals of `checker.normalize` are not seen by `collapse` -/
theorem collapse_rstrip_stripTrailingWs (s : Str) :
    collapse (rstrip (stripTrailingWs s)) = collapse s := by
  rw [collapse_eq_run, run_rstrip, run_stripTrailingWs,
    ← collapse_eq_run]

theorem mem_of_mem_rstrip_stripTrailingWs {c : Char} {s : Str}
    (h : c ∈ rstrip (stripTrailingWs s)) : c ∈ s := by
  obtain ⟨ws, _, hs⟩ := rstrip_append_ws (stripTrailingWs s)
  exact (stripTrailingWs_sublist s).subset (by rw [hs]; exact List.mem_append_left _ h)

theorem collapse_append_nl (s : Str) : collapse (s ++ ['\n']) = collapse s := by
  rw [collapse_eq_run, run_append, run_nl, collapse_eq_run]
  simp [run]

end Py

theorem deleteWs_wsNorm (f : Flags) (s : Str) : deleteWs (wsNorm f s) = deleteWs s := by
  unfold wsNorm
  cases f.normWs <;> cases f.ignWs <;> simp [deleteWs_collapse, deleteWs_idem]

namespace Re

theorem sepStart_run (σ : WsSt) (s : Str) :
    sepStart (run σ s) = (sepStart s).map (run .word) := by
  induction s generalizing σ with
  | nil => rfl
  | cons c s ih =>
    by_cases hc : isSpace c = true
    · rw [run_cons_space hc, sepStart_cons_space hc, ih]
    · have hc' : isSpace c = false := by simpa using hc
      have : sepStart (run σ (c :: s)) = dropPrefix? dots (run .word (c :: s)) := by
        rw [run_cons_nonspace hc', run_cons_nonspace hc']
        cases σ <;> simp [WsSt.out, sepStart, hc', isSpace_space]
      rw [this, dropPrefix?_run_word Std.dots_not_space, sepStart_cons_nonspace hc']

def mapCtx (σ : WsSt) : List Str → List Str
  | [] => []
  | p :: ps => run σ p :: ps.map (run .start)

theorem mapCtx_start (L : List Str) : mapCtx .start L = L.map (run .start) := by
  cases L <;> simp [mapCtx]

theorem splitEllipsis_emit {σ : WsSt} {c : Char} {t : Str} (h : sepStart (σ.out c ++ t) = none) :
    splitEllipsis (σ.out c ++ t) = prependHead (σ.out c) (splitEllipsis t) := by
  cases σ
  · exact splitEllipsis_none h
  · exact splitEllipsis_none h
  · -- the blank the gap state emits does not start a separator either
    have h' := h
    simp only [WsSt.out, List.cons_append, List.nil_append] at h h' ⊢
    rw [sepStart_cons_space isSpace_space] at h'
    rw [splitEllipsis_none h, splitEllipsis_none h', prependHead_prependHead]; rfl

theorem splitEllipsis_run (s : Str) : ∀ σ : WsSt,
    splitEllipsis (run σ s) = mapCtx σ (splitEllipsis s) := by
  induction s using splitEllipsis_induction with
  | nil => intro σ; rfl
  | sep s rest hs e ih =>
    intro σ
    have hs' : sepStart (run σ s) = some (run .word rest) := by
      rw [sepStart_run, hs]; rfl
    rw [e, splitEllipsis_some hs', dropWhile_run, ih .start, mapCtx_start]
    simp [mapCtx, run]
  | chr c s p ps hs e e' ih =>
    intro σ
    rw [e']
    by_cases hc : isSpace c = true
    · rw [run_cons_space hc, ih, e]; simp [mapCtx, run, hc]
    · have hc' : isSpace c = false := by simpa using hc
      have hn : sepStart (run σ (c :: s)) = none := by rw [sepStart_run, hs]; rfl
      rw [run_cons_nonspace hc'] at hn ⊢
      rw [splitEllipsis_emit hn, ih, e]
      simp [mapCtx, prependHead, run, hc']

theorem splitEllipsis_collapse (b : Str) :
    splitEllipsis (collapse b) = (splitEllipsis b).map collapse := by
  rw [collapse_eq, splitEllipsis_run b .start, mapCtx_start]

theorem Scattered.map_run {ws : List Str} {m : Str} (h : Scattered ws m) (σ : WsSt) :
    Scattered (ws.map (run .start)) (run σ m) := by
  induction h generalizing σ with
  | nil => exact .nil _
  | cons x w ws r _ ih =>
    rw [run_append, run_append, fin_append]
    obtain ⟨pre, hpre⟩ := run_suffix (fin σ x) w
    rw [hpre, ← List.append_assoc (run σ x), List.map_cons]
    exact .cons _ _ _ _ (ih _)

/-- a got that decomposes along pieces still does after everything is collapsed: whitespace that a
    piece loses goes into the wildcards -/
theorem collapse_scattered {first last mid : Str} {mids : List Str} (hm : Scattered mids mid) :
    ∃ mid', collapse (first ++ mid ++ last) = collapse first ++ mid' ++ collapse last ∧
      Scattered (mids.map collapse) mid' := by
  rw [collapse_eq, run_append, run_append, fin_append]
  obtain ⟨pre, hpre⟩ := run_suffix (fin (fin .start first) mid) last
  rw [hpre]
  exact ⟨run (fin .start first) mid ++ pre, by simp,
    (hm.map_run _).append pre⟩

theorem ellipsisMatch_collapse {a b : Str} (h : ellipsisMatch a b = true) :
    ellipsisMatch (collapse a) (collapse b) = true :=
  ellipsisMatch_map collapse (splitEllipsis_collapse b) (fun _ _ _ _ hm => collapse_scattered hm) h

theorem Scattered.deleteWs {ws : List Str} {m : Str} (h : Scattered ws m) :
    Scattered (ws.map Py.deleteWs) (Py.deleteWs m) := by
  induction h with
  | nil => exact .nil _
  | cons x w ws r _ ih =>
    rw [deleteWs_append, deleteWs_append, List.map_cons]
    exact .cons _ _ _ _ ih

example : Py.run .start " a \n b  ".toList = "a b".toList ∧ fin .start " a \n b  ".toList = .gap := by
  decide_lits
example : splitEllipsis (collapse " x  y \n...  p  q ... ".toList) = ["x y".toList, "p q".toList, []] ∧
    (splitEllipsis " x  y \n...  p  q ... ".toList).map collapse = ["x y".toList, "p q".toList, []] := by
  decide_lits
example : splitEllipsis " x  y \n...  p  q ... ".toList = [" x  y".toList, "p  q".toList, []] := by
  decide_lits
example : sepStart " \n...  p".toList = some "  p".toList := by decide_lits
example : sepStart "a...".toList = none := by decide_lits
example : contains dots (collapse "a .\n..".toList) = false := by decide_lits

end Re
end Xdoc
