import XdocModel.Static
/-!
# Lemmas about `package_modpaths` (`Static.lean`): which paths the walk yields

`PkgChain` names the directories reached through package directories only; `walkAll` is everything yielded at and
below an accepted directory.
-/
namespace Xdoc.Static
open Xdoc Py

/-- `f` is one of the `fnames` of the listing -/
def IsFileOf (f : Str) : Fs → Prop
  | .nil => False
  | .file n rest => n = f ∨ IsFileOf f rest
  | .dir _ _ rest => IsFileOf f rest

/-- `d` is one of the `dnames` of the listing and `sub` is its listing -/
def IsDirOf (d : Str) (sub : Fs) : Fs → Prop
  | .nil => False
  | .file _ rest => IsDirOf d sub rest
  | .dir n s rest => (n = d ∧ s = sub) ∨ IsDirOf d sub rest

def PkgChain : List Str → Fs → Fs → Prop
  | [], l, l' => l = l'
  | d :: p, l, l' => ∃ s, IsDirOf d s l ∧ hasEntry initPy s = true ∧ PkgChain p s l'

theorem pkgChain_snoc {p : List Str} {d : Str} {l l' : Fs} :
    PkgChain (p ++ [d]) l l' ↔ ∃ lm, PkgChain p l lm ∧ IsDirOf d l' lm ∧ hasEntry initPy l' = true := by
  induction p generalizing l with
  | nil =>
    simp only [List.nil_append, PkgChain]
    constructor
    · rintro ⟨s, a, b, rfl⟩; exact ⟨l, rfl, a, b⟩
    · rintro ⟨lm, rfl, a, b⟩; exact ⟨l', a, b, rfl⟩
  | cons e p ih =>
    simp only [List.cons_append, PkgChain, ih]
    constructor
    · rintro ⟨s, a, b, lm, x, y, z⟩; exact ⟨lm, ⟨s, a, b, x⟩, y, z⟩
    · rintro ⟨lm, ⟨s, a, b, x⟩, y, z⟩; exact ⟨s, a, b, lm, x, y, z⟩

theorem mem_yieldFiles {cfg : WalkCfg} {path q : List Str} {l : Fs} :
    q ∈ yieldFiles cfg path l ↔
      ∃ f, q = path ++ [f] ∧ IsFileOf f l ∧ cfg.validExts.contains (splitExt f) = true ∧ f ≠ initPy := by
  induction l with
  | nil => simp [yieldFiles, IsFileOf]
  | file n rest ih =>
    simp only [yieldFiles, List.mem_append, ih, IsFileOf, List.mem_ite_nil_right, List.mem_singleton,
      Bool.and_eq_true, bne_iff_ne, ne_eq]
    constructor
    · rintro (⟨⟨h3, h4⟩, h1⟩ | ⟨f, h1, h2, h3⟩)
      · exact ⟨n, h1, Or.inl rfl, h3, h4⟩
      · exact ⟨f, h1, Or.inr h2, h3⟩
    · rintro ⟨f, h1, (rfl | h2), h3, h4⟩
      · exact Or.inl ⟨⟨h3, h4⟩, h1⟩
      · exact Or.inr ⟨f, h1, h2, h3, h4⟩
  | dir n sub rest _ ih => simp only [yieldFiles, ih, IsFileOf]

theorem mem_yieldInits {path q : List Str} {l : Fs} :
    q ∈ yieldInits path l ↔
      ∃ d sub, q = path ++ [d, initPy] ∧ IsDirOf d sub l ∧ hasEntry initPy sub = true := by
  induction l with
  | nil => simp [yieldInits, IsDirOf]
  | file n rest ih => simp only [yieldInits, ih, IsDirOf]
  | dir n sub rest _ ih =>
    simp only [yieldInits, List.mem_append, ih, IsDirOf, List.mem_ite_nil_right, List.mem_singleton]
    constructor
    · rintro (⟨h3, h1⟩ | ⟨d, s, h1, h2, h3⟩)
      · exact ⟨n, sub, h1, Or.inl ⟨rfl, rfl⟩, h3⟩
      · exact ⟨d, s, h1, Or.inr h2, h3⟩
    · rintro ⟨d, s, h1, (⟨rfl, rfl⟩ | h2), h3⟩
      · exact Or.inl ⟨h3, h1⟩
      · exact Or.inr ⟨d, s, h1, h2, h3⟩

theorem mem_walkSubs {cfg : WalkCfg} {path q : List Str} {l : Fs} :
    q ∈ walkSubs cfg path l ↔
      ∃ d p l', PkgChain (d :: p) l l' ∧ q ∈ yieldHere cfg (path ++ d :: p) l' := by
  induction l generalizing path with
  | nil => simp [walkSubs, PkgChain, IsDirOf]
  | file n rest ih => simp only [walkSubs, ih, PkgChain, IsDirOf]
  | dir n sub rest ihs ihr =>
    simp only [walkSubs, List.mem_append, ihr, List.mem_ite_nil_right, ihs]
    constructor
    · rintro (⟨hc, h | ⟨d, p, l', hch, hq⟩⟩ | ⟨d, p, l', ⟨s, h1, h2, h3⟩, h4⟩)
      · exact ⟨n, [], sub, ⟨sub, Or.inl ⟨rfl, rfl⟩, hc, rfl⟩, h⟩
      · exact ⟨n, d :: p, l', ⟨sub, Or.inl ⟨rfl, rfl⟩, hc, hch⟩, by simpa [List.append_assoc] using hq⟩
      · exact ⟨d, p, l', ⟨s, Or.inr h1, h2, h3⟩, h4⟩
    · rintro ⟨d, p, l', ⟨s, (⟨rfl, rfl⟩ | h1), h2, h3⟩, h4⟩
      · refine Or.inl ⟨h2, ?_⟩
        cases p with
        | nil => cases h3; exact Or.inl h4
        | cons d' p' => exact Or.inr ⟨d', p', l', h3, by simpa [List.append_assoc] using h4⟩
      · exact Or.inr ⟨d, p, l', ⟨s, h1, h2, h3⟩, h4⟩

theorem mem_yieldHere {cfg : WalkCfg} {path q : List Str} {l : Fs} :
    q ∈ yieldHere cfg path l ↔
      (cfg.withMod = true ∧ q ∈ yieldFiles cfg path l) ∨ (cfg.withPkg = true ∧ q ∈ yieldInits path l) := by
  rw [yieldHere, List.mem_append, List.mem_ite_nil_right, List.mem_ite_nil_right]

def walkAll (cfg : WalkCfg) (path : List Str) (l : Fs) : List (List Str) :=
  yieldHere cfg path l ++ walkSubs cfg path l

theorem walkAll_nil (cfg : WalkCfg) (path : List Str) : walkAll cfg path .nil = [] := by
  simp [walkAll, yieldHere, yieldFiles, yieldInits, walkSubs]

theorem walkAll_file (cfg : WalkCfg) (path : List Str) (n : Str) (rest : Fs) :
    walkAll cfg path (.file n rest) =
      (if cfg.withMod && (cfg.validExts.contains (splitExt n) && n != initPy) then [path ++ [n]] else [])
        ++ walkAll cfg path rest := by
  cases h : cfg.withMod <;> simp [walkAll, yieldHere, yieldFiles, yieldInits, walkSubs, h]

/-- up to the order: the walk lists the files, then the `__init__.py`s, then the sub-directories -/
theorem walkAll_dir (cfg : WalkCfg) (path : List Str) (n : Str) (sub rest : Fs) :
    (walkAll cfg path (.dir n sub rest)).Perm
      ((if cfg.withPkg && hasEntry initPy sub then [path ++ [n, initPy]] else []) ++
        (if hasEntry initPy sub then walkAll cfg (path ++ [n]) sub else []) ++ walkAll cfg path rest) := by
  rw [List.perm_iff_count]
  intro q
  cases h : cfg.withPkg <;>
    simp [walkAll, yieldHere, yieldFiles, yieldInits, walkSubs, h, List.count_append] <;> omega

theorem mem_walkAll {cfg : WalkCfg} {path q : List Str} {l : Fs} :
    q ∈ walkAll cfg path l ↔ ∃ p l', PkgChain p l l' ∧ q ∈ yieldHere cfg (path ++ p) l' := by
  rw [walkAll, List.mem_append, mem_walkSubs]
  constructor
  · rintro (h | ⟨d, p, l', hc, h⟩)
    · exact ⟨[], l, rfl, by simpa using h⟩
    · exact ⟨d :: p, l', hc, h⟩
  · rintro ⟨p, l', hc, h⟩
    cases p with
    | nil => cases hc; exact Or.inl (by simpa using h)
    | cons d p => exact Or.inr ⟨d, p, l', hc, h⟩

/-- `package_modpaths` of a directory with `check` and `recursive` on (the defaults) -/
theorem mem_packageModpaths {cfg : WalkCfg} {q : List Str} {l : Fs} (hr : cfg.recursive = true) :
    q ∈ packageModpaths cfg true (.dir l) ↔
      hasEntry initPy l = true ∧ ((cfg.withPkg = true ∧ q = [initPy]) ∨ q ∈ walkAll cfg [] l) := by
  cases hi : hasEntry initPy l <;> simp [packageModpaths, walkAll, hr, hi]

end Xdoc.Static
