import XdocModel.Lemmas.Parser
import XdocModel.Lemmas.CoreCollect
import XdocModel.Lemmas.ExpandTabs
/-!
# Between the parser (C13) and the freeform loop (C08)

The lines the parser works on (`prepareLines`) and the labelled lines hold no line break and no tab
(`PlainLine`; the labeller's hack inserts only `... `); for a text whose only line break is `\n` and
that has no tab (`PlainText`) they sit at the index of the `split('\n')` lines. `ExactTiles` is C13's
`Tiles` plus the two facts `Tiles` does not record; it implies C08's `Tiled`.
-/
namespace Xdoc
open Py

namespace Parser
open Lexer

theorem prepareLines_noBreak (docstr : Str) : ∀ l ∈ prepareLines docstr, NoBreak l := by
  unfold prepareLines
  exact splitLines_noBreak _

theorem prepareLines_no_newline (docstr : Str) : ∀ l ∈ prepareLines docstr, '\n' ∉ l :=
  fun l hl => (prepareLines_noBreak docstr l hl).no_nl

/-- the lines the labeller sees are the `splitlines` of the tab-expanded docstring without the common indentation
    (short of an empty last line when there is an indentation to remove: the text is joined and split again) -/
theorem prepareLines_prefix (docstr : Str) :
    prepareLines docstr <+:
      (splitLines (expandTabs docstr)).map (·.drop (minIndentation (expandTabs docstr))) := by
  unfold prepareLines
  simp only
  split
  · refine splitLines_joinWith_prefix _ fun x hx => ?_
    obtain ⟨y, hy, rfl⟩ := List.mem_map.mp hx
    exact fun c hc => splitLines_noBreak _ y hy c (List.mem_of_mem_drop hc)
  · rename_i hm
    rw [Nat.eq_zero_of_not_pos hm]
    simp

/-- the labeller's hack inserts only `... `: a line free of the characters `f` marks stays so -/
theorem hackRel_charFree (f : Char → Bool) (hf : ∀ c ∈ "... ".toList, f c = false) {line out : Str}
    (h : HackRel line out) (hl : ∀ c ∈ line, f c = false) : ∀ c ∈ out, f c = false := by
  rcases h with rfl | ⟨k, rfl⟩
  · exact hl
  · intro c hc
    simp only [List.mem_append] at hc
    rcases hc with (hc | hc) | hc
    · exact hl c (List.mem_of_mem_take hc)
    · exact hf c hc
    · exact hl c (List.mem_of_mem_drop hc)

theorem forall2_lineRel_charFree (f : Char → Bool) (hf : ∀ c ∈ "... ".toList, f c = false)
    {ls : List Str} {out : List LLine} (h : Forall2 LineRel ls out)
    (hl : ∀ l ∈ ls, ∀ c ∈ l, f c = false) : ∀ p ∈ out, ∀ c ∈ p.2, f c = false := by
  induction h with
  | nil => simp
  | cons hr _ ih =>
    intro p hp
    rcases List.mem_cons.mp hp with rfl | hp
    · exact hackRel_charFree f hf hr.1 (hl _ (by simp))
    · exact ih (fun l hl' => hl l (List.mem_cons_of_mem _ hl')) p hp

theorem hackRel_noBreak {line out : Str} (h : HackRel line out) (hl : NoBreak line) : NoBreak out :=
  hackRel_charFree isLineBreak (by decide +kernel) h hl


end Parser

namespace Py

/-- the text has no tab and no line-break character other than `\n`: `str.splitlines()` and
    `str.split('\n')` see the same lines (up to one trailing empty line), `expandtabs` is the
    identity -/
def PlainText (s : Str) : Prop := ∀ c ∈ s, c ≠ '\t' ∧ (isLineBreak c = true → c = '\n')

theorem prefix_getElem? {α : Type} {l1 l2 : List α} (h : l1 <+: l2) {i : Nat} {a : α}
    (ha : l1[i]? = some a) : l2[i]? = some a := by
  obtain ⟨t, rfl⟩ := h
  have hi : i < l1.length := (List.getElem?_eq_some_iff.mp ha).1
  rw [List.getElem?_append_left hi]; exact ha

theorem PlainText.split_noBreak {s : Str} (h : PlainText s) : ∀ l ∈ splitOn '\n' s, NoBreak l := by
  intro l hl c hc
  have hs := mem_splitOn_subset hl c hc
  have hn : c ≠ '\n' := fun e => sep_not_mem_splitOn '\n' s l hl (e ▸ hc)
  cases hb : isLineBreak c with
  | false => rfl
  | true => exact absurd ((h c hs).2 hb) hn

theorem PlainText.of_subset {s t : Str} (h : PlainText s) (hsub : ∀ c ∈ t, c = '\n' ∨ c ∈ s) : PlainText t := by
  intro c hc
  rcases hsub c hc with rfl | hs
  · exact ⟨by decide, fun _ => rfl⟩
  · exact h c hs

theorem PlainText.splitLines_prefix {s : Str} (h : PlainText s) : splitLines s <+: splitOn '\n' s := by
  have := splitLines_joinWith_prefix (splitOn '\n' s) h.split_noBreak
  rwa [joinWith_splitOn] at this

end Py

namespace Parser
open Py

/-- the bridge between the two ways of counting lines: for a docstring without tabs whose only
    line-break character is `\n`, line `i` of what the labeller sees is a suffix of line `i` of
    `docstr.split('\n')` (the common indentation was removed) -/
theorem prepareLines_suffix_splitOn {s : Str} (h : PlainText s) (i : Nat) (l : Str)
    (hl : (prepareLines s)[i]? = some l) :
    ∃ l0, (splitOn '\n' s)[i]? = some l0 ∧ l <:+ l0 := by
  have hp := prefix_getElem? (prepareLines_prefix s) hl
  -- no tab: `expandtabs` is the identity
  simp only [expandTabs, expandTabsGo_of_noTab s (fun hm => (h _ hm).1 rfl) 0, List.getElem?_map,
    Option.map_eq_some_iff] at hp
  obtain ⟨y, hy, rfl⟩ := hp
  exact ⟨y, prefix_getElem? h.splitLines_prefix hy, List.drop_suffix _ _⟩

end Parser

instance (s : Str) : Decidable (Py.PlainText s) := by unfold Py.PlainText; infer_instance

/-- reading a witness off an evaluated result: the way the examples of `Proofs/Compose*.lean` produce
    `∃ ps, parse … = .ok ps ∧ …` -/
theorem exists_ok_of_map {ε α β : Type} {e : Except ε α} {f : α → β} {b : β}
    (h : e.toOption.map f = some b) : ∃ a, e = .ok a ∧ f a = b := by
  cases e with
  | error _ => cases h
  | ok a => exact ⟨a, rfl, Option.some.inj h⟩

theorem exists_part_of_eval {ε : Type} {e : Except ε (List Parser.Piece)} {Q : Parser.PPart → Prop} [DecidablePred Q]
    (h : e.toOption.map (fun ps => ps.any fun p =>
      match p with | .part q => decide (Q q) | .text _ => false) = some true) :
    ∃ ps q, e = .ok ps ∧ Parser.Piece.part q ∈ ps ∧ Q q := by
  obtain ⟨ps, hps, hp⟩ := exists_ok_of_map h
  obtain ⟨p, hp, hq⟩ := List.any_eq_true.mp hp
  cases p with
  | text s => cases hq
  | part q => exact ⟨ps, q, hps, hp, of_decide_eq_true hq⟩

namespace Compose
open Parser Core

/-- `Py.PlainText` is the notion for a whole text -/
def PlainLine (l : Str) : Prop := NoBreak l ∧ '\t' ∉ l

theorem plainLine_drop (l : Str) (n : Nat) (h : PlainLine l) : PlainLine (l.drop n) :=
  ⟨fun c hc => h.1 c (List.mem_of_mem_drop hc), fun hc => h.2 (List.mem_of_mem_drop hc)⟩

theorem plainLine_iff {l : Str} : PlainLine l ↔ ∀ c ∈ l, (isLineBreak c || c == '\t') = false := by
  simp only [PlainLine, NoBreak, Bool.or_eq_false_iff, beq_eq_false_iff_ne]
  exact ⟨fun h c hc => ⟨h.1 c hc, fun e => h.2 (e ▸ hc)⟩,
    fun h => ⟨fun c hc => (h c hc).1, fun hm => (h _ hm).2 rfl⟩⟩

/-- the lines the labeller sees: `splitlines` leaves no line break, `expandtabs` ran first -/
theorem prepareLines_plain (docstr : Str) : ∀ l ∈ prepareLines docstr, PlainLine l := by
  refine fun l hl => ⟨prepareLines_noBreak docstr l hl, fun hc => ?_⟩
  obtain ⟨r, hr, rfl⟩ := List.mem_map.mp ((prepareLines_prefix docstr).subset hl)
  exact tab_not_mem_expandTabsGo 0 docstr (mem_of_mem_splitLines hr (List.mem_of_mem_drop hc))

theorem labelLines_plain {docstr : Str} {labeled : List LLine}
    (hl : labelLines (prepareLines docstr) = .ok labeled) : ∀ l ∈ labeled.map (·.2), PlainLine l := by
  intro l hlm
  obtain ⟨p, hp, rfl⟩ := List.mem_map.mp hlm
  exact plainLine_iff.mpr (forall2_lineRel_charFree _ (by decide_lits) (labelLines_lines hl)
    (fun l hl' => plainLine_iff.mp (prepareLines_plain docstr l hl')) p hp)

/-- what `parse_freeform_docstr_examples` sees of a parser piece: the text, or the `DoctestPart`
    (the directives the parser attached are re-derived by the part itself and play no role in the
    line arithmetic). This is how the harness builds the `FPiece`s from real parser output. -/
def toFPiece : Piece → FPiece
  | .text s => .text s
  | .part q => .part q.part

def toFPieces (ps : List Piece) : List FPiece := ps.map toFPiece

theorem toFPieces_append (a b : List Piece) : toFPieces (a ++ b) = toFPieces a ++ toFPieces b := by
  simp [toFPieces]

theorem toFPieces_parts (parts : List PPart) :
    toFPieces (parts.map Piece.part) = parts.map (fun q => FPiece.part q.part) := by
  simp [toFPieces, toFPiece, Function.comp_def]

/-- C13's `Tiles` with the two facts it does not record: a text chunk is never empty, and EVERY
    part of a chunk (also an empty one) sits at chunk start + number of earlier source lines
    (`OffsetsFrom`, C01 `part_offsets`; `Covers` only says so for parts with a first line) -/
inductive ExactTiles : List Piece → Nat → List Str → Prop
  | nil (o : Nat) : ExactTiles [] o []
  | text {ls : List Str} {ps : List Piece} {o : Nat} {rest : List Str} :
      ls ≠ [] → ExactTiles ps (o + ls.length) rest →
      ExactTiles (.text (joinWith ['\n'] ls) :: ps) o (ls ++ rest)
  | code {parts : List PPart} {ps : List Piece} {o : Nat} {src want rest : List Str} :
      SrcTiles (chunkIndentP src) want parts o src → OffsetsFrom o 0 parts →
      ExactTiles ps (o + src.length + want.length) rest →
      ExactTiles (parts.map Piece.part ++ ps) o (src ++ want ++ rest)

theorem ExactTiles.tiles {ps : List Piece} {o : Nat} {L : List Str} (h : ExactTiles ps o L) : Tiles ps o L := by
  induction h with
  | nil o => exact .nil o
  | text _ _ ih => exact .text ih
  | code hs _ _ ih => exact .code hs ih

/-- only the line counts of the parts are read off `SrcTiles`; where it puts the chunk (`o'`) plays no
    part. `o + acc` is where the freeform loop stands: `acc` source lines of the chunk are behind it -/
theorem tiled_parts {k : Nat} {want : List Str} {parts : List PPart} {o' : Nat} {src : List Str}
    (hs : SrcTiles k want parts o' src) (o acc : Nat) (rest : List FPiece)
    (ho : OffsetsFrom o acc parts) (hr : Tiled (o + acc + src.length + want.length) rest) :
    Tiled (o + acc) (parts.map (fun q => FPiece.part q.part) ++ rest) := by
  induction hs generalizing acc with
  | @last p _ ls hc hw =>
    have hn : p.part.nLines = ls.length + want.length := by
      simp only [Part.nLines, Part.nExecLines, Part.nWantLines, hc.2.1, hw, List.length_map,
        Option.getD_some]
    refine ⟨ho.1, ?_⟩
    rw [hn, ← Nat.add_assoc]; exact hr
  | @cons p ps _ ls rest' hc hw _ ih =>
    have hlen : p.part.execLines.length = ls.length := by rw [hc.2.1, List.length_map]
    have hn : p.part.nLines = ls.length := by
      simp only [Part.nLines, Part.nExecLines, Part.nWantLines, hlen, hw, Option.getD_none,
        List.length_nil, Nat.add_zero]
    refine ⟨ho.1, ?_⟩
    rw [hn, Nat.add_assoc]
    refine ih (acc + ls.length) (hlen ▸ ho.2) ?_
    have : o + (acc + ls.length) + rest'.length + want.length =
        o + acc + (ls ++ rest').length + want.length := by rw [List.length_append]; omega
    rw [this]; exact hr

/-- the bridge C13 → C08: pieces that tile lines without `\n` exactly (`ExactTiles`) are `Tiled`
    in the sense of the freeform loop (text piece = `count('\n') + 1` lines, part = `n_lines`) -/
theorem tiled_of_exactTiles {ps : List Piece} {o : Nat} {L : List Str} (h : ExactTiles ps o L)
    (hnl : ∀ l ∈ L, '\n' ∉ l) : Tiled o (toFPieces ps) := by
  induction h with
  | nil o => trivial
  | @text ls ps o rest hne _ ih =>
    have hc := count_nl_joinWith ls hne (fun l hl => hnl l (List.mem_append_left _ hl))
    simp only [toFPieces, List.map_cons, toFPiece, Tiled, pieceSize]
    rw [hc]
    exact ih (fun l hl => hnl l (List.mem_append_right _ hl))
  | @code parts ps o src want rest hs ho _ ih =>
    rw [toFPieces_append, toFPieces_parts]
    have := tiled_parts hs o 0 (toFPieces ps) ho
      (by simpa using ih (fun l hl => hnl l (List.mem_append_right _ hl)))
    simpa using this

theorem tiles_part_line {ps : List Piece} {o : Nat} {L : List Str} (h : Tiles ps o L) :
    ∀ q, Piece.part q ∈ ps → ∀ x ls, q.part.origLines = some (x :: ls) →
      ∃ k raw, o ≤ q.part.lineOffset ∧ L[q.part.lineOffset - o]? = some raw ∧ x = raw.drop k := by
  intro q hq x xs hx
  obtain ⟨k, pre, ls, post, rfl, ⟨ho, _, hoff⟩, _⟩ := tiles_covers_of_mem h hq
  rw [ho] at hx
  cases ls with
  | nil => simp at hx
  | cons raw rest =>
    simp only [List.map_cons, Option.some.injEq, List.cons.injEq] at hx
    refine ⟨k, raw, by rw [hoff (by simp)]; omega, ?_, hx.1.symm⟩
    rw [hoff (by simp), Nat.add_sub_cancel_left]
    simp

/-- `drop 4` removes the prompt (`>>> ` / `... `) from an `orig_line`; `P` is any property of lines that
    `drop` keeps (no line break, no tab) -/
theorem tiles_part_lines {P : Str → Prop} (hdrop : ∀ l n, P l → P (l.drop n))
    {ps : List Piece} {o : Nat} {L : List Str} (h : Tiles ps o L) (hL : ∀ l ∈ L, P l) :
    ∀ q, Piece.part q ∈ ps →
      (∃ ls, q.part.origLines = some ls ∧ q.part.execLines = ls.map (·.drop 4) ∧ ∀ l ∈ ls, P l) ∧
      ∀ l ∈ q.part.wantLines.getD [], P l := by
  intro q hq
  obtain ⟨k, pre, ls, post, rfl, ⟨ho, he, _⟩, hw⟩ := tiles_covers_of_mem h hq
  refine ⟨⟨_, ho, by rw [he, List.map_map]; rfl, fun l hl => ?_⟩, fun l hl => ?_⟩
  · obtain ⟨r, hr, rfl⟩ := List.mem_map.mp hl
    exact hdrop r k (hL r (by simp [hr]))
  · obtain ⟨r, hr, rfl⟩ := hw l hl
    exact hdrop r k (hL r hr)

end Compose
end Xdoc
