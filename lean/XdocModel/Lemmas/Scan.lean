import XdocModel.Re.Scan
/-! `re.sub` as a scan (`Re/Scan.lean`): the fuel `s.length` is always enough when every match
consumes at least one character, hence recursion equations for `sub` that do not mention fuel. -/
namespace Xdoc.Re
open Xdoc Py

variable {step : Str → Option (Str × Str)}

theorem scan_fuel (hstep : ∀ t o r, step t = some (o, r) → r.length < t.length) :
    ∀ (f1 f2 : Nat) (s : Str), s.length ≤ f1 → s.length ≤ f2 → scan step f1 s = scan step f2 s := by
  -- every step spends one unit of fuel and consumes at least one character
  intro f1
  induction f1 with
  | zero =>
    intro f2 s h1 _
    rw [List.eq_nil_of_length_eq_zero (Nat.le_zero.mp h1)]
    cases f2 <;> rfl
  | succ f1 ih =>
    intro f2 s h1 h2
    cases s with
    | nil => cases f2 <;> rfl
    | cons c s =>
      cases f2 with
      | zero => simp at h2
      | succ f2 =>
        simp only [List.length_cons] at h1 h2
        simp only [scan]
        cases hs : step (c :: s) with
        | none => exact congrArg (c :: ·) (ih f2 s (by omega) (by omega))
        | some p =>
          have hl := hstep _ _ _ hs
          simp only [List.length_cons] at hl
          exact congrArg (p.1 ++ ·) (ih f2 p.2 (by omega) (by omega))

theorem sub_nil : sub step [] = [] := rfl

theorem sub_none {c : Char} {s : Str} (h : step (c :: s) = none) :
    sub step (c :: s) = c :: sub step s := by
  simp only [sub, List.length_cons, scan, h]

theorem sub_some (hstep : ∀ t o r, step t = some (o, r) → r.length < t.length) {s o r : Str}
    (h : step s = some (o, r)) : sub step s = o ++ sub step r := by
  have hl := hstep _ _ _ h
  cases s with
  | nil => simp at hl
  | cons c s =>
    simp only [List.length_cons] at hl
    simp only [sub, List.length_cons, scan, h]
    rw [scan_fuel hstep s.length r.length r (by omega) (Nat.le_refl _)]

theorem sub_id {s : Str} (h : ∀ t, t <:+ s → step t = none) : sub step s = s := by
  induction s with
  | nil => rfl
  | cons c s ih =>
    rw [sub_none (h _ (List.suffix_refl _)), ih fun t ht => h t (ht.trans (List.suffix_cons _ _))]

theorem sub_induction (hstep : ∀ t o r, step t = some (o, r) → r.length < t.length)
    {motive : Str → Prop} (nil : motive [])
    (none : ∀ c s, step (c :: s) = none → motive s → motive (c :: s))
    (some : ∀ s o r, step s = some (o, r) → motive r → motive s) (s : Str) : motive s := by
  suffices ∀ n (s : Str), s.length ≤ n → motive s from this _ s (Nat.le_refl _)
  intro n
  induction n with
  | zero => intro s h; rw [List.eq_nil_of_length_eq_zero (Nat.le_zero.mp h)]; exact nil
  | succ n ih =>
    intro s hlen
    cases hs : step s with
    | some p => exact some s p.1 p.2 hs (ih _ (by have := hstep _ _ _ hs; omega))
    | none =>
      cases s with
      | nil => exact nil
      | cons c s => exact none c s hs (ih s (by simp only [List.length_cons] at hlen; omega))

end Xdoc.Re
