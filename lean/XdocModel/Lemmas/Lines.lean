import XdocModel.Dump
import XdocModel.Lemmas.Str
/-! Lines of built texts (for C19): `utils.indent` line by line, and the lines of a join whose separator is a run of
    newlines. The facts about `split`, `join`, `splitlines` themselves are in `Lemmas/Str.lean`. -/
namespace Xdoc.Py
open Xdoc

theorem splitOn_replaceNL (pre : Str) (hpre : '\n' ∉ pre) (text : Str) {x : Str} {t : List Str}
    (ht : splitOn '\n' text = x :: t) : splitOn '\n' (Format.replaceNL pre text) = x :: t.map (pre ++ ·) := by
  induction text generalizing x t with
  | nil => cases ht; rfl
  | cons c s ih =>
    obtain ⟨y, u, hs⟩ := List.exists_cons_of_ne_nil (splitOn_ne_nil s)
    simp only [splitOn, hs, List.headD_cons, List.tail_cons] at ht
    by_cases hc : c = '\n'
    · rw [if_pos hc] at ht; cases ht
      simp [Format.replaceNL, hc, splitOn, splitOn_noNL_append pre hpre (ih hs)]
    · rw [if_neg hc] at ht; cases ht
      simp [Format.replaceNL, hc, splitOn, ih hs]

theorem splitOn_indent (pre : Str) (hpre : '\n' ∉ pre) (text : Str) :
    splitOn '\n' (Format.indent text pre) = (splitOn '\n' text).map (pre ++ ·) := by
  obtain ⟨x, t, ht⟩ := List.exists_cons_of_ne_nil (splitOn_ne_nil text)
  rw [Format.indent, splitOn_noNL_append pre hpre (splitOn_replaceNL pre hpre text ht), ht]; rfl

theorem splitOn_joinWith_newlines (k : Nat) (ls : List Str) (h : ls ≠ []) :
    splitOn '\n' (joinWith (List.replicate (k + 1) '\n') ls) =
      joinWith (List.replicate k []) (ls.map (splitOn '\n')) := by
  have sep : ∀ (k : Nat) (a b : Str), splitOn '\n' (a ++ List.replicate (k + 1) '\n' ++ b) =
      splitOn '\n' a ++ List.replicate k [] ++ splitOn '\n' b := by
    intro k
    induction k with
    | zero => intro a b; simpa using splitOn_append_nl a b
    | succ k ih =>
      intro a b
      have := ih [] b
      simp only [List.nil_append] at this
      rw [List.replicate_succ, List.append_assoc, List.cons_append, splitOn_append_nl, this]
      simp [splitOn, List.replicate_succ]
  induction ls with
  | nil => exact absurd rfl h
  | cons x r ih =>
    cases r with
    | nil => simp [joinWith]
    | cons y r => simp only [joinWith, List.map_cons, sep, ih (List.cons_ne_nil _ _)]

theorem filter_joinWith {α : Type} (p : α → Bool) {sep : List α} (hsep : sep.filter p = [])
    (ls : List (List α)) : (joinWith sep ls).filter p = (ls.map (List.filter p)).flatten := by
  induction ls with
  | nil => rfl
  | cons x r ih =>
    cases r with
    | nil => simp [joinWith]
    | cons y r => simp only [joinWith, List.filter_append, hsep, ih, List.map_cons, List.flatten_cons, List.append_nil]

end Xdoc.Py

namespace Xdoc.Dump

theorem nl_not_mem_dotsToUnderscore {s : Str} (h : '\n' ∉ s) : '\n' ∉ dotsToUnderscore s := by
  unfold dotsToUnderscore
  intro hm
  obtain ⟨c, hc, he⟩ := List.mem_map.mp hm
  split at he
  · cases he
  · subst he; exact h hc

end Xdoc.Dump
