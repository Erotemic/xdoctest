import XdocModel.Lemmas.LabelStep
import XdocModel.Lemmas.Str
/-!
# The labeller on lines rendered from the grammar of C13

The forward direction of C13: a line the grammar renders (padding, then prose / nothing / a prompt
line / a want) makes `labelStep` take one known branch from a state described by three fields
(`prev`, `sind`, `pending`).
-/
namespace Xdoc.Parser
open Xdoc Py Lexer

theorem ps1_eq : ps1 = ['>', '>', '>'] := String.toList_ofList
theorem ps2_eq : ps2 = ['.', '.', '.'] := String.toList_ofList
theorem ps1sp_eq : ">>> ".toList = ['>', '>', '>', ' '] := String.toList_ofList
theorem ps2sp_eq : "... ".toList = ['.', '.', '.', ' '] := String.toList_ofList

abbrev pad (k : Nat) : Str := List.replicate k ' '

theorem indentOf?_pad (k : Nat) {c : Char} (s : Str) (hc : isSpace c = false) :
    indentOf? (pad k ++ c :: s) = some k := by
  have hne : c ≠ ' ' := by rintro rfl; rw [isSpace_space] at hc; cases hc
  have hall : ∀ a ∈ pad k, (a == ' ') = true := fun a ha => by rw [List.eq_of_mem_replicate ha]; rfl
  simp [indentOf?, List.dropWhile_append_of_pos hall, List.takeWhile_append_of_pos hall, hne, hc]

theorem indentOf_pad (k : Nat) {c : Char} (s : Str) (hc : isSpace c = false) :
    indentOf (pad k ++ c :: s) = k := by
  unfold indentOf; rw [indentOf?_pad k s hc]; rfl

theorem drop_pad (k : Nat) (s : Str) : (pad k ++ s).drop k = s := by
  apply List.drop_left'; simp

theorem hasPrefix_single {l p : Str} : hasPrefix l [p] = true ↔ l = p ∨ ∃ r, l = p ++ ' ' :: r := by
  simp [hasPrefix, startsWith_iff]

theorem hasPrefix_pair (l p q : Str) : hasPrefix l [p, q] = (hasPrefix l [p] || hasPrefix l [q]) := by
  simp [hasPrefix]

def IsPrompt (p : Str) : Prop :=
  ∃ a b c, p = [a, b, c] ∧ isSpace a = false ∧ isSpace b = false ∧ isSpace c = false

theorem isPrompt_ps1 : IsPrompt ps1 := ⟨_, _, _, ps1_eq, isSpace_gt, isSpace_gt, isSpace_gt⟩
theorem isPrompt_ps2 : IsPrompt ps2 := ⟨_, _, _, ps2_eq, isSpace_dot, isSpace_dot, isSpace_dot⟩

theorem prompt_line {p l : Str} (hp : IsPrompt p) (h : hasPrefix l [p] = true) :
    strip (l.take 4) = p ∧ (∃ c s, l = c :: s ∧ isSpace c = false) ∧ hasPrefix (strip l) [p] = true := by
  obtain ⟨a, b, c, rfl, ha, hb, hc⟩ := hp
  have hl : ∀ t, strip (a :: t) = rstrip (a :: t) := fun t => by rw [strip, lstrip_of_head ha]
  have hr : rstrip [a, b, c] = [a, b, c] := by simp [rstrip, hc]
  have hrs : rstrip [a, b, c, ' '] = [a, b, c] := by simp [rstrip, hc, isSpace_space]
  rcases hasPrefix_single.mp h with rfl | ⟨r, rfl⟩
  · exact ⟨(hl _).trans hr, ⟨a, _, rfl, ha⟩, by rw [hl, hr]; exact h⟩
  · refine ⟨(hl _).trans hrs, ⟨a, _, rfl, ha⟩, ?_⟩
    show hasPrefix (strip (a :: ([b, c, ' '] ++ r))) _ = true
    rw [hl]
    show hasPrefix (rstrip ([a, b, c, ' '] ++ r)) _ = true
    rw [rstrip_append]
    split
    · exact hasPrefix_single.mpr (Or.inl hrs)
    · exact hasPrefix_single.mpr (Or.inr ⟨rstrip r, rfl⟩)

theorem not_ps2_of_ps1 {l : Str} (h : hasPrefix l [ps1] = true) : hasPrefix l [ps2] = false := by
  cases h2 : hasPrefix l [ps2] with
  | false => rfl
  | true =>
    rw [ps1_eq] at h; rw [ps2_eq] at h2
    rcases hasPrefix_single.mp h with rfl | ⟨r, rfl⟩ <;>
      rcases hasPrefix_single.mp h2 with h' | ⟨r', h'⟩ <;> cases h'

theorem hasPrefix_of_strip_false {l : Str}
    (h : hasPrefix (strip l) [ps1, ps2] = false) : hasPrefix l [ps1, ps2] = false := by
  rw [hasPrefix_pair, Bool.or_eq_false_iff] at h ⊢
  constructor
  · cases h1 : hasPrefix l [ps1] with
    | false => rfl
    | true => rw [(prompt_line isPrompt_ps1 h1).2.2] at h; cases h.1
  · cases h1 : hasPrefix l [ps2] with
    | false => rfl
    | true => rw [(prompt_line isPrompt_ps2 h1).2.2] at h; cases h.2

theorem hasPrefix_two_of_one {l p : Str} (q : Str) (h : hasPrefix l [p] = true) :
    hasPrefix l [p, q] = true ∧ hasPrefix l [q, p] = true := by
  rw [hasPrefix_pair, hasPrefix_pair, h]; simp

theorem hasPrefix_of_startsWith_ps1 {l : Str} (h : startsWith ">>> ".toList l = true) :
    hasPrefix l [ps1] = true := by
  rw [ps1sp_eq] at h; simp [hasPrefix, ps1_eq, h]

theorem hasPrefix_of_startsWith_ps2 {l : Str} (h : startsWith "... ".toList l = true) :
    hasPrefix l [ps2] = true := by
  rw [ps2sp_eq] at h; simp [hasPrefix, ps2_eq, h]

theorem knownPrefix_of_prompt {l : Str}
    (h : startsWith ">>> ".toList l = true ∨ startsWith "... ".toList l = true) : knownPrefix l = true := by
  unfold knownPrefix
  rcases h with h | h
  · rw [(prompt_line isPrompt_ps1 (hasPrefix_of_startsWith_ps1 h)).1]; decide +kernel
  · rw [(prompt_line isPrompt_ps2 (hasPrefix_of_startsWith_ps2 h)).1]; decide +kernel

theorem labelStep_prose_line {s : Nat} {c : Label} {o : List (Label × Str)} {line : Str}
    (h : hasPrefix (strip line) [ps1] = false) :
    labelStep ⟨.text, s, none, c, o⟩ line = .ok ⟨.text, s, none, c, o ++ [(.text, line)]⟩ := by
  have hcur : nextLabel .text s line = .text := by
    simp only [nextLabel, h, Bool.false_eq_true, if_false]
  exact labelStep_plain rfl hcur rfl

theorem labelStep_blank_line (p : Label) (s : Nat) (c : Label) (o : List (Label × Str)) :
    ∃ s', labelStep ⟨p, s, none, c, o⟩ [] = .ok ⟨.text, s', none, c, o ++ [(.text, [])]⟩ :=
  ⟨_, labelStep_plain (cur := .text) rfl (by cases p <;> rfl) rfl⟩

def OpenAt (k : Nat) (p : Label) (s : Nat) : Prop := p = .text ∨ p = .want ∨ (p.isSrc = true ∧ s = k)

theorem nextIndent_open {k : Nat} {p : Label} {s : Nat} (h : OpenAt k p s) {cur : Label}
    (hc : cur = .dsrc ∨ (cur = .dcnt ∧ p.isSrc = true)) : nextIndent p cur s k = k := by
  unfold nextIndent
  rcases h with rfl | rfl | ⟨hp, rfl⟩
  · rcases hc with rfl | ⟨rfl, h⟩
    · rfl
    · cases h
  · rcases hc with rfl | ⟨rfl, h⟩
    · rfl
    · cases h
  · rcases hc with rfl | ⟨rfl, -⟩ <;> cases p <;> first | rfl | cases hp

theorem labelStep_first_line {p : Label} {s k : Nat} {c : Label} {o : List (Label × Str)} {first : Str}
    (hf : hasPrefix first [ps1] = true) (hp : OpenAt k p s) :
    labelStep ⟨p, s, none, c, o⟩ (pad k ++ first) =
      .ok (LabelState.emitSrc ⟨p, s, none, c, o⟩ k (contLabel .dsrc first) (pad k ++ first) [first.drop 4]) := by
  -- every test the transition table makes on the line is decided by `hf`: the line is not blank,
  -- not bare `...`, indented by exactly `k`, prompt-prefixed after dropping `k`; so the table says
  -- `dsrc` from each of the three states of `OpenAt`, the indentation becomes `k`, the assert passes
  obtain ⟨h4, ⟨ch, t, rfl, hch⟩, hs⟩ := prompt_line isPrompt_ps1 hf
  have h2 := not_ps2_of_ps1 hf
  have h12 := (hasPrefix_two_of_one ps2 hf).1
  have hi : indentOf (pad k ++ ch :: t) = k := indentOf_pad k t hch
  have hne : (strip (ch :: t)).isEmpty = false := strip_cons_ne_nil hch
  have hn2 : (strip (ch :: t) == ps2) = false := by
    cases hb : (strip (ch :: t) == ps2) with
    | false => rfl
    | true => rw [beq_iff_eq] at hb; rw [hb] at hs; revert hs; decide +kernel
  have hcur : nextLabel p s (pad k ++ ch :: t) = .dsrc := by
    rcases hp with rfl | rfl | ⟨hp, rfl⟩
    · simp only [nextLabel, strip_replicate, hs, if_true]
    · simp only [nextLabel, strip_replicate, hs, hne, Bool.false_eq_true, if_false, if_true]
    · simp only [nextLabel_src hp, strip_replicate, hi, drop_pad, hne, hn2, h12, h2, Nat.lt_irrefl, decide_false,
        Bool.or_self, Bool.false_eq_true, if_false, if_true]
  have := labelStep_first (st := ⟨p, s, none, c, o⟩) (line := pad k ++ ch :: t) (sind := k) rfl hcur rfl
    (by rw [hi]; exact nextIndent_open hp (Or.inl rfl))
    (by rw [drop_pad]; unfold promptPrefix; rw [h4]; decide +kernel)
  rw [this, drop_pad]

theorem labelStep_first_line_ps2 {p : Label} {k : Nat} {c : Label} {o : List (Label × Str)} {first : Str}
    (hf : hasPrefix first [ps2] = true) (hbare : strip first ≠ ps2) (hp : p.isSrc = true) :
    labelStep ⟨p, k, none, c, o⟩ (pad k ++ first) =
      .ok (LabelState.emitSrc ⟨p, k, none, c, o⟩ k (contLabel .dsrc first) (pad k ++ first) [first.drop 4]) := by
  obtain ⟨h4, ⟨ch, t, rfl, hch⟩, -⟩ := prompt_line isPrompt_ps2 hf
  have h12 := (hasPrefix_two_of_one ps1 hf).2
  have hi : indentOf (pad k ++ ch :: t) = k := indentOf_pad k t hch
  have hne : (strip (ch :: t)).isEmpty = false := strip_cons_ne_nil hch
  have hn2 : (strip (ch :: t) == ps2) = false := by
    cases hb : (strip (ch :: t) == ps2) with
    | false => rfl
    | true => rw [beq_iff_eq] at hb; exact absurd hb hbare
  have hcur : nextLabel p k (pad k ++ ch :: t) = .dcnt := by
    simp only [nextLabel_src hp, strip_replicate, hi, drop_pad, hne, hn2, h12, hf, Nat.lt_irrefl, decide_false,
      Bool.or_self, Bool.false_eq_true, if_false, if_true]
  have := labelStep_first (st := ⟨p, k, none, c, o⟩) (line := pad k ++ ch :: t) (sind := k) rfl hcur rfl
    (by rw [hi]; exact nextIndent_open (Or.inr (Or.inr ⟨hp, rfl⟩)) (Or.inr ⟨rfl, hp⟩))
    (by rw [drop_pad]; unfold promptPrefix; rw [h4]; decide +kernel)
  rw [this, drop_pad]
  unfold contLabel; rw [if_pos hf, if_pos hf]

theorem labelStep_cont_line {p : Label} {k : Nat} {parts : List Str} {c : Label} {o : List (Label × Str)} {l : Str}
    (hl : knownPrefix l = true) :
    labelStep ⟨p, k, some parts, c, o⟩ (pad k ++ l) =
      .ok (LabelState.emitSrc ⟨p, k, some parts, c, o⟩ k (contLabel c l) (pad k ++ l) (parts ++ [l.drop 4])) := by
  have := labelStep_cont (st := ⟨p, k, some parts, c, o⟩) (line := pad k ++ l) rfl (by rw [drop_pad]; exact hl)
  rw [this, drop_pad]

theorem labelStep_want_line {p : Label} {k : Nat} {c : Label} {o : List (Label × Str)} {w : Str}
    (hp : p.isSrc = true ∨ p = .want)
    (hne : (strip w).isEmpty = false) (hpre : hasPrefix (strip w) [ps1, ps2] = false)
    (hhd : (w.head?.map isSpace).getD false = false) :
    labelStep ⟨p, k, none, c, o⟩ (pad k ++ w) = .ok ⟨.want, k, none, c, o ++ [(.want, pad k ++ w)]⟩ := by
  obtain ⟨ch, t, rfl, hch⟩ : ∃ ch t, w = ch :: t ∧ isSpace ch = false := by
    cases w with
    | nil => cases hne
    | cons ch t => exact ⟨ch, t, rfl, by simpa using hhd⟩
  have hi := indentOf_pad k t hch
  have h12 := hasPrefix_of_strip_false hpre
  have h1 : hasPrefix (strip (ch :: t)) [ps1] = false := by
    rw [hasPrefix_pair, Bool.or_eq_false_iff] at hpre; exact hpre.1
  have hcur : nextLabel p k (pad k ++ ch :: t) = .want := by
    rcases hp with hp | rfl
    · simp only [nextLabel_src hp, strip_replicate, hi, drop_pad, hne, h12, Nat.lt_irrefl, decide_false,
        Bool.or_self, Bool.false_eq_true, if_false]
    · simp only [nextLabel, strip_replicate, hi, hne, h1, Nat.lt_irrefl, Bool.false_eq_true, if_false]
  rw [labelStep_plain rfl hcur rfl, nextIndent_want]

def Run (st : LabelState) (lines : List Str) (labs : List Label) (st' : LabelState) : Prop :=
  lines.foldlM labelStep st = .ok st' ∧ st'.out.map (·.1) = st.out.map (·.1) ++ labs

theorem Run.nil (st : LabelState) : Run st [] [] st := by
  simp [Run, pure, Except.pure]

theorem Run.cons {st st1 st' : LabelState} {line : Str} {lab : Label} {lines : List Str} {labs : List Label}
    (h1 : labelStep st line = .ok st1) (ho : st1.out.map (·.1) = st.out.map (·.1) ++ [lab])
    (h2 : Run st1 lines labs st') : Run st (line :: lines) (lab :: labs) st' := by
  refine ⟨?_, ?_⟩
  · rw [List.foldlM_cons, h1]; exact h2.1
  · rw [h2.2, ho]; simp

theorem Run.append {st st1 st2 : LabelState} {l1 l2 : List Str} {a b : List Label}
    (h1 : Run st l1 a st1) (h2 : Run st1 l2 b st2) : Run st (l1 ++ l2) (a ++ b) st2 := by
  refine ⟨?_, ?_⟩
  · rw [List.foldlM_append, h1.1]; exact h2.1
  · rw [h2.2, h1.2]; simp

theorem run_prose (ls : List Str) (h : ∀ l ∈ ls, hasPrefix (strip l) [ps1] = false)
    (st : LabelState) (hp : st.prev = .text) (hn : st.pending = none) :
    ∃ st', Run st ls (ls.map fun _ => Label.text) st' ∧ st'.prev = .text ∧ st'.pending = none := by
  induction ls generalizing st with
  | nil => exact ⟨st, Run.nil st, hp, hn⟩
  | cons l ls ih =>
    obtain ⟨p, s, pd, c, o⟩ := st
    simp only at hp hn; subst hp hn
    obtain ⟨st', hr, h1, h2⟩ := ih (fun l' hl' => h l' (List.mem_cons_of_mem _ hl'))
      ⟨.text, s, none, c, o ++ [(.text, l)]⟩ rfl rfl
    exact ⟨st', Run.cons (labelStep_prose_line (h l List.mem_cons_self)) (by simp) hr, h1, h2⟩

theorem run_blank (n : Nat) (st : LabelState) (hn : st.pending = none) :
    ∃ st', Run st (List.replicate n []) (List.replicate n Label.text) st' ∧ st'.pending = none ∧
      ((st.prev = .text ∨ 0 < n) → st'.prev = .text) := by
  induction n generalizing st with
  | zero => exact ⟨st, Run.nil st, hn, fun h => h.elim id (fun h => absurd h (Nat.lt_irrefl 0))⟩
  | succ n ih =>
    obtain ⟨p, s, pd, c, o⟩ := st
    simp only at hn; subst hn
    obtain ⟨s', hs'⟩ := labelStep_blank_line p s c o
    obtain ⟨st', hr, h1, h2⟩ := ih ⟨.text, s', none, c, o ++ [(.text, [])]⟩ rfl
    exact ⟨st', Run.cons hs' (by simp) hr, h1, fun _ => h2 (Or.inl rfl)⟩

def contLabels : Label → List Str → List Label
  | _, [] => []
  | c, l :: r => contLabel c l :: contLabels (contLabel c l) r

def stmtLabels (s : List Str) : List Label := contLabels .dsrc s

def SrcDone (k : Nat) (st : LabelState) : Prop :=
  st.pending = none ∧ st.prev.isSrc = true ∧ st.sind = k

def SrcReady (k : Nat) (st : LabelState) : Prop :=
  st.pending = none ∧ OpenAt k st.prev st.sind

def ExDone (k : Nat) (st : LabelState) : Prop :=
  st.pending = none ∧ st.sind = k ∧ (st.prev.isSrc = true ∨ st.prev = .want)

theorem SrcDone.exDone {k : Nat} {st : LabelState} (h : SrcDone k st) : ExDone k st :=
  ⟨h.1, h.2.2, Or.inl h.2.1⟩

theorem ExDone.ready {k : Nat} {st : LabelState} (h : ExDone k st) : SrcReady k st :=
  ⟨h.1, h.2.2.elim (fun hs => Or.inr (Or.inr ⟨hs, h.2.1⟩)) (fun hw => Or.inr (Or.inl hw))⟩

/-- what the grammar asks of a statement besides its first line: the other lines carry a prompt (or
    four blanks), the statement is balanced as a whole and no strict prefix of it is (oracle) -/
def StmtCore (s : List Str) : Prop :=
  (∀ l ∈ s.tail, knownPrefix l = true) ∧
    isBalanced (s.map (·.drop 4)) = true ∧
    ∀ n, 0 < n → n < s.length → isBalanced ((s.take n).map (·.drop 4)) = false

/-- the remaining lines of a statement, a line of which has just been read and left `parts`:
    consumed one by one, the statement is complete exactly at the last one -/
theorem run_rest (k : Nat) (rest : List Str) (parts : List Str) (st : LabelState) (lab : Label) (o : Str)
    (hlab : lab.isSrc = true) (hl : ∀ l ∈ rest, knownPrefix l = true)
    (hb : isBalanced (parts ++ rest.map (·.drop 4)) = true)
    (hu : ∀ m, m < rest.length → isBalanced (parts ++ (rest.take m).map (·.drop 4)) = false) :
    ∃ st', Run (st.emitSrc k lab o parts) (rest.map (pad k ++ ·)) (contLabels lab rest) st' ∧
      SrcDone k st' := by
  induction rest generalizing parts st lab o with
  | nil =>
    rw [st.emitSrc_balanced _ _ _ _ (by simpa using hb)]
    exact ⟨_, Run.nil _, rfl, hlab, rfl⟩
  | cons l rest ih =>
    rw [st.emitSrc_unbalanced _ _ _ _ (by simpa using hu 0 (Nat.succ_pos _))]
    obtain ⟨st', hr, h1⟩ := ih (parts ++ [l.drop 4]) ⟨st.prev, k, some parts, lab, st.out ++ [(lab, o)]⟩
      (contLabel lab l) (pad k ++ l) (contLabel_isSrc l hlab)
      (fun l' hl' => hl l' (List.mem_cons_of_mem _ hl')) (by simpa using hb)
      (fun m hm => by simpa using hu (m + 1) (by simpa using hm))
    exact ⟨st', Run.cons (labelStep_cont_line (hl l List.mem_cons_self)) (by simp) hr, h1⟩

theorem run_stmt_core (k : Nat) (first : Str) (rest : List Str) (hs : StmtCore (first :: rest))
    (st : LabelState)
    (hstep : labelStep st (pad k ++ first) =
      .ok (st.emitSrc k (contLabel .dsrc first) (pad k ++ first) [first.drop 4])) :
    ∃ st', Run st ((first :: rest).map (pad k ++ ·)) (stmtLabels (first :: rest)) st' ∧ SrcDone k st' := by
  obtain ⟨hl, hb, hu⟩ := hs
  obtain ⟨st', hr, h1⟩ := run_rest k rest [first.drop 4] st _ (pad k ++ first) (contLabel_isSrc (c := .dsrc) first rfl) hl
    (by simpa using hb) (fun m hm => by simpa using hu (m + 1) (Nat.succ_pos _) (by simpa using hm))
  exact ⟨st', Run.cons hstep (by simp) hr, h1⟩

def StmtOk1 (s : List Str) : Prop :=
  ∃ first rest, s = first :: rest ∧ hasPrefix first [ps1] = true ∧ StmtCore s

/-- only directly after another statement -/
def StmtOk2 (s : List Str) : Prop :=
  ∃ first rest, s = first :: rest ∧ hasPrefix first [ps2] = true ∧ strip first ≠ ps2 ∧ StmtCore s

theorem run_stmt1 (k : Nat) (s : List Str) (hs : StmtOk1 s) (st : LabelState) (hst : SrcReady k st) :
    ∃ st', Run st (s.map (pad k ++ ·)) (stmtLabels s) st' ∧ SrcDone k st' := by
  obtain ⟨first, rest, rfl, hf, hcore⟩ := hs
  obtain ⟨p, sd, pd, c, o⟩ := st
  obtain ⟨rfl, hp⟩ := hst
  exact run_stmt_core k first rest hcore _ (labelStep_first_line hf hp)

theorem run_stmt2 (k : Nat) (s : List Str) (hs : StmtOk2 s) (st : LabelState) (hst : SrcDone k st) :
    ∃ st', Run st (s.map (pad k ++ ·)) (stmtLabels s) st' ∧ SrcDone k st' := by
  obtain ⟨first, rest, rfl, hf, hbare, hcore⟩ := hs
  obtain ⟨p, sd, pd, c, o⟩ := st
  obtain ⟨rfl, hp, rfl⟩ := hst
  exact run_stmt_core _ first rest hcore _ (labelStep_first_line_ps2 hf hbare hp)

theorem run_stmts (k : Nat) (stmts : List (List Str)) (hs : ∀ s ∈ stmts, StmtOk1 s ∨ StmtOk2 s)
    (st : LabelState) (hst : SrcDone k st) :
    ∃ st', Run st ((stmts.flatMap id).map (pad k ++ ·)) (stmts.flatMap stmtLabels) st' ∧ SrcDone k st' := by
  induction stmts generalizing st with
  | nil => exact ⟨st, Run.nil st, hst⟩
  | cons s stmts ih =>
    obtain ⟨st1, hr1, h1⟩ : ∃ st', Run st (s.map (pad k ++ ·)) (stmtLabels s) st' ∧ SrcDone k st' := by
      rcases hs s List.mem_cons_self with h | h
      · exact run_stmt1 k s h st hst.exDone.ready
      · exact run_stmt2 k s h st hst
    obtain ⟨st2, hr2, h2⟩ := ih (fun s' hs' => hs s' (List.mem_cons_of_mem _ hs')) st1 h1
    refine ⟨st2, ?_, h2⟩
    simp only [List.flatMap_cons, id, List.map_append]
    exact hr1.append hr2

def WantOk (w : Str) : Prop :=
  (strip w).isEmpty = false ∧ hasPrefix (strip w) [ps1, ps2] = false ∧
    indentOf w = 0 ∧ (w.head?.map isSpace).getD false = false

theorem run_want (k : Nat) (want : List Str) (hw : ∀ w ∈ want, WantOk w) (st : LabelState)
    (hst : ExDone k st) :
    ∃ st', Run st (want.map (pad k ++ ·)) (want.map fun _ => Label.want) st' ∧ ExDone k st' ∧
      ((st.prev = .want ∨ want ≠ []) → st'.prev = .want) := by
  induction want generalizing st with
  | nil => exact ⟨st, Run.nil st, hst, fun h => h.elim id (fun h => absurd rfl h)⟩
  | cons w want ih =>
    obtain ⟨p, sd, pd, c, o⟩ := st
    obtain ⟨rfl, rfl, hp⟩ := hst
    obtain ⟨h1, h2, -, h4⟩ := hw w List.mem_cons_self
    obtain ⟨st', hr, h, h'⟩ := ih (fun w' hw' => hw w' (List.mem_cons_of_mem _ hw'))
      ⟨.want, sd, none, c, o ++ [(.want, pad sd ++ w)]⟩ ⟨rfl, rfl, Or.inr rfl⟩
    exact ⟨st', Run.cons (labelStep_want_line hp h1 h2 h4) (by simp) hr, h, fun _ => h' (Or.inl rfl)⟩

theorem run_example (k : Nat) (s : List Str) (stmts : List (List Str)) (want : List Str)
    (hs1 : StmtOk1 s) (hs : ∀ s' ∈ stmts, StmtOk1 s' ∨ StmtOk2 s') (hw : ∀ w ∈ want, WantOk w)
    (st : LabelState) (hst : SrcReady k st) :
    ∃ st', Run st (((s :: stmts).flatMap id).map (pad k ++ ·) ++ want.map (pad k ++ ·))
        ((s :: stmts).flatMap stmtLabels ++ want.map fun _ => Label.want) st' ∧ ExDone k st' ∧
        (want ≠ [] → st'.prev = .want) := by
  obtain ⟨st1, hr1, h1⟩ := run_stmt1 k s hs1 st hst
  obtain ⟨st2, hr2, h2⟩ := run_stmts k stmts hs st1 h1
  obtain ⟨st3, hr3, h3, h4⟩ := run_want k want hw st2 h2.exDone
  refine ⟨st3, ?_, h3, fun h => h4 (Or.inr h)⟩
  simp only [List.flatMap_cons, id, List.map_append]
  exact (hr1.append hr2).append hr3

end Xdoc.Parser
