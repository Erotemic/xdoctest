import XdocModel.Stdlib
import XdocModel.Lemmas.Ellipsis
import XdocModel.Lemmas.Collapse
import XdocModel.Lemmas.NormRepr
/-! Helper lemmas for C20 (xdoctest's checker against the standard `doctest` module). The two ellipsis
splits of a want are related piece by piece (`PRel`); everything else the standard module does to got
and want is, under the guards of C20, the identity or a deletion of whitespace that the collapsing
transducer (`run`) does not see. -/
namespace Xdoc
open Py Re
open _root_.Xdoc.Std  -- inside `namespace Xdoc` a bare `Std` is Lean's

namespace Std

/-- `ps` are the standard pieces, `qs` xdoctest's: every xdoctest piece is the standard piece
    minus something on its left (`pre` for the first one listed) and, except for the last piece,
    something on its right (in fact: the whitespace the separator absorbed) -/
inductive PRel : Str → List Str → List Str → Prop
  | last (pre q : Str) : PRel pre [pre ++ q] [q]
  | cons (pre q a b : Str) (ps qs : List Str) :
      PRel b ps qs → PRel pre ((pre ++ q ++ a) :: ps) (q :: qs)

theorem PRel.ne_nil {pre : Str} {ps qs : List Str} (h : PRel pre ps qs) : ps ≠ [] ∧ qs ≠ [] := by
  cases h <;> simp

theorem splitDotsGo_eq_splitBy (fuel : Nat) (s acc : Str) :
    splitDotsGo fuel s acc = splitBy (dropPrefix? dots) fuel s acc := by
  induction fuel generalizing s acc with
  | zero => rfl
  | succ n ih =>
    cases s with
    | nil => rfl
    | cons c s => cases h : dropPrefix? dots (c :: s) <;> simp [splitDotsGo, splitBy, h, ih]

theorem dots_shorter : ∀ s r : Str, dropPrefix? dots s = some r → r.length < s.length := by
  intro s r h
  rw [dropPrefix?_eq_some.mp h]; simp [dots]; omega

theorem splitDots_eq_pieces (s : Str) : splitDots s = pieces (dropPrefix? dots) s := by
  rw [splitDots, splitDotsGo_eq_splitBy, splitBy_eq_pieces dots_shorter _ _ _ (Nat.le_refl _)]
  exact prependHead_nil (pieces_ne_nil s)

theorem splitDots_ne_nil (s : Str) : splitDots s ≠ [] := by
  rw [splitDots_eq_pieces]; exact pieces_ne_nil s

theorem splitDots_dots (t : Str) : splitDots (dots ++ t) = [] :: splitDots t := by
  rw [splitDots_eq_pieces, splitDots_eq_pieces, pieces_some dots_shorter (dropPrefix?_append _ _)]

theorem splitDots_cons {c : Char} {s : Str} (h : dropPrefix? dots (c :: s) = none) :
    splitDots (c :: s) = prependHead [c] (splitDots s) := by
  rw [splitDots_eq_pieces, splitDots_eq_pieces, pieces_none h]

theorem splitDots_ws (ws : Str) (hws : ∀ c ∈ ws, isSpace c = true) (t : Str) :
    splitDots (ws ++ t) = prependHead ws (splitDots t) := by
  induction ws with
  | nil => exact (prependHead_nil (splitDots_ne_nil t)).symm
  | cons c ws ih =>
    rw [List.cons_append, splitDots_cons (dropPrefix?_dots_space _ (hws c (by simp))),
      ih (fun d hd => hws d (by simp [hd])), prependHead_prependHead]
    rfl

theorem PRel.shift {pre x : Str} {ps qs : List Str} (h : PRel (pre ++ x) ps qs) :
    PRel pre ps (prependHead x qs) := by
  cases h with
  | last _ q => simpa [prependHead] using PRel.last pre (x ++ q)
  | cons _ q a b ps qs h => simpa [prependHead] using PRel.cons pre (x ++ q) a b ps qs h

theorem splitDots_splitEllipsis_rel (s : Str) :
    ∀ pre, PRel pre (prependHead pre (splitDots s)) (splitEllipsis s) := by
  induction s using splitEllipsis_induction with
  | nil => intro pre; exact .last pre []
  | sep s rest hs e ih =>
    -- a separator of xdoctest starts here: the whitespace on its left ends the standard piece,
    -- the whitespace on its right starts the next one
    intro pre
    obtain ⟨ws, ws2, hws, hws2, hs'⟩ := sepStart_decomp hs
    have hd : splitDots s = ws :: prependHead ws2 (splitDots (rest.dropWhile isSpace)) := by
      rw [hs', List.append_assoc, splitDots_ws ws hws, splitDots_dots, splitDots_ws ws2 hws2]
      simp [prependHead]
    rw [e, hd]
    simpa [prependHead] using PRel.cons pre [] ws ws2 _ _ (ih ws2)
  | chr c s p ps hs e e' ih =>
    intro pre
    rw [splitDots_cons (sepStart_none_dots hs), prependHead_prependHead, e']
    have := (ih (pre ++ [c])).shift
    rw [e] at this
    simpa [prependHead] using this

theorem splitDots_splitEllipsis_rel_nil (want : Str) : PRel [] (splitDots want) (splitEllipsis want) := by
  have := splitDots_splitEllipsis_rel want []
  rwa [prependHead_nil (splitDots_ne_nil want)] at this

/-- a scattered occurrence of the standard middle pieces yields one of xdoctest's, the surplus going
    into the wildcards. Stated with `dropLast` / `getLast?.getD []` because that is how both matchers
    take the middle pieces and the last piece from the list after the first piece. -/
theorem PRel.scattered {b : Str} {ps qs : List Str} (h : PRel b ps qs) :
    ∀ mid, Scattered ps.dropLast mid →
      ∃ mid', mid ++ ps.getLast?.getD [] = mid' ++ qs.getLast?.getD [] ∧ Scattered qs.dropLast mid' := by
  induction h with
  | last pre q =>
    intro mid _
    exact ⟨mid ++ pre, by simp, .nil _⟩
  | cons pre q a b ps qs h ih =>
    intro mid hm
    obtain ⟨hp, hq⟩ := h.ne_nil
    obtain ⟨p1, ps1, rfl⟩ := List.exists_cons_of_ne_nil hp
    obtain ⟨q1, qs1, rfl⟩ := List.exists_cons_of_ne_nil hq
    simp only [List.dropLast_cons_cons] at hm ⊢
    cases hm with
    | cons x w ws r hr =>
      obtain ⟨r', e, hs⟩ := ih r hr
      refine ⟨(x ++ pre) ++ q ++ (a ++ r'), ?_, .cons _ _ _ _ (hs.prepend a)⟩
      simp only [List.getLast?_cons_cons] at e ⊢
      simp only [List.append_assoc] at e ⊢
      rw [e]

/-- the key lemma of C20 (xdoctest's pieces are the standard ones with whitespace stripped next to each `...`; the
    stripped whitespace of `got` goes into the wildcards) -/
theorem stdEllipsis_implies_ellipsisMatch (got want : Str) (h : stdEllipsis got want = true) :
    ellipsisMatch got want = true := by
  unfold stdEllipsis at h
  cases hc : contains dots want with
  | false =>
    rw [hc] at h
    exact (ellipsisMatch_no_dots hc).mpr (beq_iff_eq.mp h).symm
  | true =>
    rw [hc] at h
    simp only [Bool.not_true, Bool.false_eq_true, ↓reduceIte] at h
    rw [ellipsisMatch_iff hc]
    have hrel := splitDots_splitEllipsis_rel_nil want
    generalize splitDots want = ps at h hrel
    generalize splitEllipsis want = qs at hrel ⊢
    cases hrel with
    | last pre q => simp at h
    | cons pre q a b ps' qs' hr =>
      obtain ⟨hp, hq⟩ := hr.ne_nil
      obtain ⟨p1, ps1, rfl⟩ := List.exists_cons_of_ne_nil hp
      simp only at h
      rw [ellipsisPieces_iff] at h
      obtain ⟨mid, hg, hs⟩ := h
      -- the surplus `a` of the first standard piece and that of the middle ones go into the wildcards
      obtain ⟨mid', e, hs'⟩ := hr.scattered mid hs
      refine ⟨q, qs'.dropLast, qs'.getLast hq, by rw [List.dropLast_concat_getLast], a ++ mid',
        ?_, hs'.prepend a⟩
      rw [List.getLast?_eq_some_getLast hq, Option.getD_some] at e
      rw [hg]
      simp only [List.nil_append, List.append_assoc] at e ⊢
      rw [e]

/-! the standard treatment of whitespace-only lines only deletes whitespace in front of a newline or of
the end -/

theorem run_blankGotLine (l : Str) {t : Str} (ht : hdSp t = true) (σ : WsSt) :
    run σ (blankGotLine l ++ t) = run σ (l ++ t) := by
  unfold blankGotLine
  split
  · rename_i hl
    exact (run_ws_hdSp (fun c hc => List.all_eq_true.mp hl c hc) ht σ).symm
  · rfl

theorem run_blankGot_lines (ls : List Str) : ∀ σ,
    run σ (joinWith ['\n'] (ls.map blankGotLine)) = run σ (joinWith ['\n'] ls) := by
  induction ls with
  | nil => intro σ; rfl
  | cons l ls ih =>
    intro σ
    cases ls with
    | nil => simpa [joinWith] using run_blankGotLine l (t := []) rfl σ
    | cons y ys =>
      rw [List.map_cons, joinWith_cons_ne _ _ (by simp), joinWith_cons_ne _ _ (by simp),
        List.append_assoc, List.append_assoc, run_blankGotLine l (by exact isSpace_nl),
        run_append, run_append _ l, List.singleton_append, List.singleton_append, run_nl, run_nl, ih]

theorem run_stdBlankGot (s : Str) (σ : WsSt) :
    run σ (stdBlankGot s) = run σ s := by
  have := run_blankGot_lines (splitOn '\n' s) σ
  rwa [joinWith_splitOn] at this

theorem toAscii_ascii (s : Str) (h : s.all (fun c => decide (c.toNat < 128)) = true) :
    toAscii s = s := by
  induction s with
  | nil => rfl
  | cons c s ih =>
    simp only [List.all_cons, Bool.and_eq_true, decide_eq_true_eq] at h
    simp only [toAscii, List.map_cons, List.flatten_cons] at ih ⊢
    rw [ih h.2]
    simp [toAsciiChar, h.1]

theorem blankWantLine_free {l : Str} (h : contains marker l = false) : blankWantLine l = l := by
  simp [blankWantLine, dropPrefix?_of_not_contains h]

theorem stdBlankWant_id {w : Str} (h : contains marker w = false) : stdBlankWant w = w := by
  have : (splitOn '\n' w).map blankWantLine = splitOn '\n' w := by
    rw [List.map_congr_left (g := id), List.map_id]
    intro l hl
    exact blankWantLine_free (not_contains_of_infix (mem_splitOn_infix hl) h)
  rw [stdBlankWant, this, joinWith_splitOn]

theorem eraseCrLines_id {s : Str} (h : '\r' ∉ s) : eraseCrLines s = s := by
  unfold eraseCrLines
  rw [List.filter_eq_self.mpr, splitLinesKeep_flatten]
  intro l hl
  have hmem : ∀ c ∈ l, c ∈ s := by
    intro c hc
    rw [← splitLinesKeep_flatten s]
    exact List.mem_flatten.mpr ⟨l, hl, hc⟩
  cases hg : l.getLast? with
  | none => simp
  | some d =>
    have hd : d ∈ l := List.mem_of_getLast? hg
    have : d ≠ '\r' := fun e => h (e ▸ hmem d hd)
    simp [this]

/-! a traceback want with the final newline the standard parser keeps -/

theorem firstWordLineOn_append_empty (ls : List Str) :
    firstWordLineOn (ls ++ [[]]) = (firstWordLineOn ls).map (· ++ ['\n']) := by
  induction ls with
  | nil => simp [firstWordLineOn]
  | cons l ls ih =>
    cases l with
    | nil => simpa [firstWordLineOn] using ih
    | cons c l =>
      simp only [List.cons_append, firstWordLineOn]
      split
      · have e : (c :: l) :: (ls ++ [[]]) = ((c :: l) :: ls) ++ [[]] := rfl
        rw [e, joinWith_append_empty _ _ (by simp)]; simp
      · exact ih

theorem stdExcMatch_append_nl (b : Str) :
    stdExcMatch (b ++ ['\n']) = (stdExcMatch b).map (· ++ ['\n']) := by
  unfold stdExcMatch
  rw [splitOn_append_nl b []]
  obtain ⟨l, ls, hl⟩ := List.exists_cons_of_ne_nil (splitOn_ne_nil b)
  rw [hl]
  simp only [List.cons_append]
  split
  · exact firstWordLineOn_append_empty ls
  · rfl

theorem stripExceptionDetails_append_nl (m : Str) :
    stripExceptionDetails (m ++ ['\n']) = stripExceptionDetails m := by
  have : (m ++ ['\n']).takeWhile (· != '\n') = m.takeWhile (· != '\n') := by
    induction m with
    | nil => simp
    | cons c m ih =>
      simp only [List.cons_append, List.takeWhile_cons, ih]
  simp [stripExceptionDetails, this]

theorem normReprStep_rev_of_match (f : Flags) (g w : Str) (h : checkMatch f g w = true) :
    normReprStep f w g = w :=
  normReprStep_of_rev_match f h

theorem checkMatch_normalize_of_match (f : Flags) (g w : Str)
    (h : checkMatch f (norm1 f false g) (norm1 f true w) = true) :
    checkMatch f (normalize f g w).1 (normalize f g w).2 = true := by
  unfold normalize
  cases f.normRepr
  · exact h
  · exact nrCore_of_match f h

/-- the tests of `OutputChecker.check_output`, in its order -/
theorem stdCheck_iff (f : StdFlags) (g w : Str) :
    stdCheck f g w = true ↔
      toAscii g = toAscii w ∨ trueFor1 (toAscii g) (toAscii w) = true ∨
      stdBlankGot (toAscii g) = stdBlankWant (toAscii w) ∨
      (f.normWs = true ∧ collapse (stdBlankGot (toAscii g)) = collapse (stdBlankWant (toAscii w))) ∨
      (f.ellipsis = true ∧
        stdEllipsis (if f.normWs then collapse (stdBlankGot (toAscii g)) else stdBlankGot (toAscii g))
          (if f.normWs then collapse (stdBlankWant (toAscii w)) else stdBlankWant (toAscii w)) = true) := by
  unfold stdCheck
  by_cases h1 : toAscii g = toAscii w
  · simp [h1]
  by_cases h2 : trueFor1 (toAscii g) (toAscii w) = true
  · simp [h2]
  by_cases h3 : stdBlankGot (toAscii g) = stdBlankWant (toAscii w)
  · simp [h3]
  cases f.normWs <;> simp [h1, h2, h3]

end Std
end Xdoc
