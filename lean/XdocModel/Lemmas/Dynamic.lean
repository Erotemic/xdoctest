import XdocModel.Dynamic
import XdocModel.Lemmas.Static
/-!
# Lemmas for C16: dict assignment, the static inventory and the dynamic walk produce the same pairs
-/
namespace Xdoc.Dynamic
open Xdoc Py Static

def pairs (l : List CallDef) : List (Str × Option Str) := l.map fun c => (c.callname, c.doc)

@[simp] theorem pairs_nil : pairs [] = [] := rfl
@[simp] theorem pairs_cons (c : CallDef) (l : List CallDef) : pairs (c :: l) = (c.callname, c.doc) :: pairs l := rfl
@[simp] theorem pairs_append (a b : List CallDef) : pairs (a ++ b) = pairs a ++ pairs b := by simp [pairs]

/-- the twins of `Static.insert_of_not_mem` / `insertAll_of_nodup` for the dict model: `pairs_insert` bridges the two
    models but forgets `lines`, so neither pair follows from the other -/
theorem dictSet_of_not_mem {β : Type} {k : Str} {v : β} {acc : List (Str × β)} (h : k ∉ acc.map (·.1)) :
    dictSet k v acc = acc ++ [(k, v)] := by
  induction acc with
  | nil => rfl
  | cons x xs ih =>
    obtain ⟨k', v'⟩ := x
    simp only [List.map_cons, List.mem_cons, not_or] at h
    have : ¬ k' = k := fun e => h.1 e.symm
    simp [dictSet, this, ih h.2]

theorem setAll_of_nodup {β : Type} {l acc : List (Str × β)} (h : (acc.map (·.1) ++ l.map (·.1)).Nodup) :
    setAll l acc = acc ++ l := by
  induction l generalizing acc with
  | nil => simp [setAll]
  | cons x l ih =>
    obtain ⟨k, v⟩ := x
    have hk : k ∉ acc.map (·.1) := by
      intro hm
      exact (List.nodup_append.mp h).2.2 _ hm k (by simp) rfl
    have : setAll ((k, v) :: l) acc = setAll l (dictSet k v acc) := rfl
    rw [this, dictSet_of_not_mem hk, ih]
    · simp
    · simpa [List.append_assoc] using h

theorem pairs_insert (cd : CallDef) (acc : List CallDef) :
    pairs (insert cd acc) = dictSet cd.callname cd.doc (pairs acc) := by
  induction acc with
  | nil => rfl
  | cons x xs ih =>
    simp only [Static.insert, pairs_cons, dictSet]
    by_cases hx : x.callname = cd.callname <;> simp [hx, ih]

theorem pairs_insertAll (l acc : List CallDef) :
    pairs (insertAll l acc) = setAll (pairs l) (pairs acc) := by
  induction l generalizing acc with
  | nil => rfl
  | cons cd l ih =>
    rw [insertAll_cons, ih, pairs_insert]; rfl

/-- the module docstring entry: present iff the docstring is non-empty, the condition `dynamicCollect` tests -/
theorem pairs_moduleEntry (loc : Locator) (m : Module) :
    pairs (moduleEntry loc m) =
      if truthy (m.doc.map (·.text)) then [(docName, m.doc.map (·.text))] else [] := by
  unfold moduleEntry
  cases m.doc with
  | none => simp [truthy]
  | some d =>
    by_cases he : d.text.isEmpty = true <;> simp [truthy, he, mkCallDef]

theorem noDefs_nil (loc : Locator) (modname other : Str) (t : Tree) (h : noDefs t = true) :
    topLevel loc t = [] ∧ (∀ c, methodsOf loc c t = []) ∧ bindsTop modname other t = [] ∧
      bindsCls modname other t = [] := by
  induction t with
  | done => simp [topLevel, methodsOf, bindsTop, bindsCls]
  | ifs test r1 r2 body orelse next ihb iho ihn =>
    simp only [noDefs, Bool.and_eq_true] at h
    simp [topLevel, methodsOf, bindsTop, bindsCls, ihb h.1.1, iho h.1.2, ihn h.2]
  | comp r body next ihb ihn =>
    simp only [noDefs, Bool.and_eq_true] at h
    simp [topLevel, methodsOf, bindsTop, bindsCls, ihb h.1, ihn h.2]
  | other next ihn => simp [topLevel, methodsOf, bindsTop, bindsCls, ihn h]
  | _ => cases h

theorem noDefs_noAlias (t : Tree) (h : noDefs t = true) : aliasesOf t = [] := by
  induction t with
  | done => rfl
  | ifs test r1 r2 body orelse next ihb iho ihn =>
    simp only [noDefs, Bool.and_eq_true] at h
    simp [aliasesOf, ihb h.1.1, iho h.1.2, ihn h.2]
  | comp r body next ihb ihn =>
    simp only [noDefs, Bool.and_eq_true] at h
    simp [aliasesOf, ihb h.1, ihn h.2]
  | other next ihn => simp [aliasesOf, ihn h]
  | _ => cases h

/-- one branch of a compound statement, as `inFragment` constrains it: executed and in the fragment (the induction
    hypothesis applies), or not executed and without definitions (nothing on either side) -/
theorem inFragment_branch_eq {α β : Type} {c r : Bool} {t : Tree} (F : List β → List α) (hF : F [] = [])
    {dyn : List β} {sta : List α} (h : (if r = true then inFragment c t else noDefs t) = true)
    (ih : r = true → inFragment c t = true → F dyn = sta) (hno : noDefs t = true → sta = []) :
    F (if r = true then dyn else []) = sta := by
  cases r with
  | true => exact ih rfl h
  | false => rw [if_neg Bool.false_ne_true, hF]; exact (hno h).symm

/-- the two branches of an `if` statement, as `inFragment` constrains them: each like `inFragment_branch_eq`; the guarded block
    of a main guard is not executed, and the static collector does not look into it -/
theorem inFragment_ifs_eq {α β : Type} {c r1 r2 : Bool} {test : Test} {body orelse next : Tree} (F : List β → List α)
    (hF : F [] = []) (hFa : ∀ a b, F (a ++ b) = F a ++ F b) {db dor : List β} {sb sor : List α}
    (h : inFragment c (.ifs test r1 r2 body orelse next) = true)
    (ihb : r1 = true → inFragment c body = true → F db = sb)
    (iho : r2 = true → inFragment c orelse = true → F dor = sor)
    (hnb : noDefs body = true → sb = []) (hno : noDefs orelse = true → sor = []) :
    F ((if r1 = true then db else []) ++ (if r2 = true then dor else [])) =
      (if isMainGuard test = true then sor else sb ++ sor) ∧ inFragment c next = true := by
  simp only [inFragment, Bool.and_eq_true] at h
  refine ⟨?_, h.2⟩
  obtain ⟨h, -⟩ := h
  rw [hFa]
  by_cases hg : isMainGuard test = true
  · simp only [hg, if_true, Bool.and_eq_true, Bool.not_eq_true'] at h ⊢
    rw [h.1, if_neg Bool.false_ne_true, hF, List.nil_append, inFragment_branch_eq F hF h.2 iho hno]
  · simp only [hg, Bool.false_eq_true, if_false, Bool.and_eq_true] at h ⊢
    rw [inFragment_branch_eq F hF h.1 ihb hnb, inFragment_branch_eq F hF h.2 iho hno]

theorem inFragment_noAlias (inCls : Bool) (t : Tree) (h : inFragment inCls t = true) : aliasesOf t = [] := by
  induction t with
  | comp r body next ihb ihn =>
    simp only [inFragment, Bool.and_eq_true] at h
    simp [aliasesOf, ihn h.2, show (if r = true then aliasesOf body else []) = [] from
      inFragment_branch_eq id rfl h.1 (fun _ => ihb) (fun _ => rfl)]
  | ifs test r1 r2 body orelse next ihb iho ihn =>
    obtain ⟨e, hn⟩ := inFragment_ifs_eq (sb := []) (sor := []) id rfl (fun _ _ => rfl) h (fun _ => ihb) (fun _ => iho)
      (fun _ => rfl) (fun _ => rfl)
    simp only [id, List.append_nil, ite_self] at e
    rw [aliasesOf, e, ihn hn]; rfl
  | _ =>
    simp_all [inFragment, aliasesOf]

theorem memberEntries_append (modname cname : Str) (a b : List (Str × Item)) :
    memberEntries modname cname (a ++ b) = memberEntries modname cname a ++ memberEntries modname cname b := by
  induction a with
  | nil => rfl
  | cons x xs ih => obtain ⟨k, it⟩ := x; simp [memberEntries, ih]

theorem target_funcItem (modname other : Str) (decos : List Deco) (doc : Option Doc) :
    (funcItem modname other decos doc).target = ownFacts modname (globalsOf modname other decos) doc := by
  unfold Item.target funcItem
  cases wrapOf decos <;> rfl

@[simp] theorem ownFacts_hasName (modname g : Str) (doc : Option Doc) : (ownFacts modname g doc).hasName = true := rfl
@[simp] theorem ownFacts_doc (modname g : Str) (doc : Option Doc) :
    (ownFacts modname g doc).doc = doc.map (·.text) := rfl
@[simp] theorem funcItem_valid (modname other : Str) (decos : List Deco) (doc : Option Doc) :
    (funcItem modname other decos doc).valid = true := rfl
@[simp] theorem funcItem_self (modname other : Str) (decos : List Deco) (doc : Option Doc) :
    (funcItem modname other decos doc).self = ownFacts modname (globalsOf modname other decos) doc := rfl

/-- `__module__` decides: whatever namespace the object was compiled in -/
theorem definedBy_own (modname g : Str) (doc : Option Doc) : definedBy modname (ownFacts modname g doc) = true := by
  simp [definedBy, ownFacts]

theorem definedBy_external (modname other : Str) (h : other ≠ modname) :
    definedBy modname (externalItem other).target = false := by
  simp [definedBy, externalItem, Item.target, h]

theorem members_eq_methods (loc : Locator) (modname other cname : Str) (hne : other ≠ modname) (t : Tree)
    (hf : inFragment true t = true) :
    memberEntries modname cname (bindsCls modname other t) = pairs (methodsOf loc cname t) := by
  have hno : ∀ b, noDefs b = true → pairs (methodsOf loc cname b) = [] := fun b h => by
    rw [(noDefs_nil loc modname other b h).2.1]; rfl
  induction t with
  | func a name decos doc body next _ ihn =>
    simp only [inFragment, Bool.and_eq_true] at hf
    simp only [bindsCls, methodsOf, memberEntries_append, pairs_append, ihn hf.2]
    -- a function object of this module is valid, defined by it (`definedBy_own`) and named: one entry, the static
    -- pair; a decorator that hides it hides it on both sides
    by_cases hs : skipDeco decos = true
    · simp [hs, memberEntries]
    · simp [hs, memberEntries, target_funcItem, definedBy_own, mkCallDef]
  | cls name decos doc body next _ ihn =>
    simp only [inFragment, Bool.and_eq_true] at hf
    -- a class nested in a class is no function type: no entry, and `methodsOf` skips it
    simp [bindsCls, methodsOf, memberEntries, nestedClassItem, ihn hf.2]
  | ifs test r1 r2 body orelse next ihb iho ihn =>
    obtain ⟨e, hn⟩ := inFragment_ifs_eq (memberEntries modname cname) rfl (memberEntries_append _ _) hf (fun _ => ihb)
      (fun _ => iho) (hno _) (hno _)
    rw [bindsCls, methodsOf, memberEntries_append, pairs_append, ihn hn, apply_ite pairs, pairs_append, e]
  | comp r body next ihb ihn =>
    simp only [inFragment, Bool.and_eq_true] at hf
    simp only [bindsCls, methodsOf, memberEntries_append, pairs_append, ihn hf.2]
    rw [inFragment_branch_eq (memberEntries modname cname) rfl hf.1 (fun _ => ihb) (hno _)]
  | imp n next ihn =>
    simp only [inFragment] at hf
    -- an imported name is defined by the other module (`definedBy_external`): no entry
    simp [bindsCls, methodsOf, memberEntries, definedBy_external modname other hne, ihn hf]
  -- `done`, `other`: nothing on either side; an alias is outside the fragment
  | _ => simp_all [inFragment, bindsCls, methodsOf, memberEntries]

theorem entries_eq_topLevel (loc : Locator) (modname other : Str) (hne : other ≠ modname) (t : Tree)
    (hf : inFragment false t = true) (hd : classScopesDistinct modname other t = true) :
    (bindsTop modname other t).flatMap (entriesOf modname) = pairs (topLevel loc t) := by
  have hno : ∀ b, noDefs b = true → pairs (topLevel loc b) = [] := fun b h => by
    rw [(noDefs_nil loc modname other b h).1]; rfl
  induction t with
  | func a name decos doc body next _ ihn =>
    simp only [inFragment, Bool.and_eq_true] at hf
    simp only [classScopesDistinct] at hd
    have hs : skipDeco decos = false := by
      have := hf.1; simp only [decosOk, Bool.false_eq_true, if_false, Bool.and_eq_true, Bool.not_eq_true'] at this
      exact this.1
    simp [bindsTop, topLevel, entriesOf, target_funcItem, definedBy_own, mkCallDef, hs, ihn hf.2 hd]
  | cls name decos doc body next _ ihn =>
    simp only [inFragment, Bool.and_eq_true, Bool.false_eq_true, if_false] at hf
    simp only [classScopesDistinct, Bool.and_eq_true, decide_eq_true_eq] at hd
    -- the class's own entry, then its members in dict order, which for distinct names is `bindsCls`
    have hm := members_eq_methods loc modname other name hne body hf.1
    have hs : setAll (bindsCls modname other body) [] = bindsCls modname other body := by
      rw [setAll_of_nodup (by simpa using hd.1)]; simp
    simp [bindsTop, topLevel, entriesOf, definedBy, ownFacts, mkCallDef, hs, hm, ihn hf.2 hd.2]
  | ifs test r1 r2 body orelse next ihb iho ihn =>
    simp only [classScopesDistinct, Bool.and_eq_true] at hd
    obtain ⟨e, hn⟩ := inFragment_ifs_eq (List.flatMap (entriesOf modname)) rfl (fun _ _ => List.flatMap_append) hf
      (fun hr h => ihb h (by subst hr; exact hd.1.1)) (fun hr h => iho h (by subst hr; exact hd.1.2))
      (hno _) (hno _)
    rw [bindsTop, topLevel, List.flatMap_append, pairs_append, ihn hn hd.2, apply_ite pairs, pairs_append, e]
  | comp r body next ihb ihn =>
    simp only [inFragment, Bool.and_eq_true] at hf
    simp only [classScopesDistinct, Bool.and_eq_true] at hd
    simp only [bindsTop, topLevel, List.flatMap_append, pairs_append, ihn hf.2 hd.2]
    rw [inFragment_branch_eq (List.flatMap (entriesOf modname)) rfl hf.1 (fun hr h => ihb h (by subst hr; exact hd.1)) (hno _)]
  | imp n next ihn =>
    simp only [inFragment] at hf
    simp only [classScopesDistinct] at hd
    simp [bindsTop, topLevel, entriesOf, definedBy_external modname other hne, ihn hf hd]
  -- `done`, `other`: nothing on either side; an alias is outside the fragment
  | _ => simp_all [inFragment, classScopesDistinct, bindsTop, topLevel]

end Xdoc.Dynamic
