import XdocModel.Directive
/-!
# Lemmas about the directive state machine (`XdocModel/Directive.lean`)

The boolean tables are association lists with Python `dict` semantics (`alSet` keeps insertion order).
The state splits into a persistent part (`gBools`, `gReq`) and an overlay that inline directives
write and every `update` clears; only `set_report_style` writes the persistent part from anywhere.
-/
namespace Xdoc
open Py

theorem mem_of_mapM_eq_some {α β : Type} {f : α → Option β} {l : List α} {l' : List β}
    (h : l.mapM f = some l') : ∀ b ∈ l', ∃ a ∈ l, f a = some b := by
  induction l generalizing l' with
  | nil => cases h; simp
  | cons a as ih =>
    simp only [List.mapM_cons, Option.bind_eq_bind, Option.pure_def, Option.bind_eq_some_iff] at h
    obtain ⟨b0, ha, bs, has, h⟩ := h
    cases h
    intro b hb
    rcases List.mem_cons.mp hb with rfl | hb
    · exact ⟨a, List.mem_cons_self, ha⟩
    · obtain ⟨a', h1, h2⟩ := ih has b hb
      exact ⟨a', List.mem_cons_of_mem _ h1, h2⟩

theorem alGet_cons (k k' : String) (v' : Bool) (r : List (String × Bool)) :
    alGet k ((k', v') :: r) = if k' = k then some v' else alGet k r := by
  by_cases h : k' = k
  · subst h; simp [alGet, List.lookup]
  · have : (k == k') = false := by simpa using Ne.symm h
    simp [alGet, List.lookup, this, h]

theorem alSet_cons (k k' : String) (b v' : Bool) (r : List (String × Bool)) :
    alSet k b ((k', v') :: r) = if k' = k then (k, b) :: r else (k', v') :: alSet k b r := by
  by_cases h : k' = k <;> simp [alSet, h]

theorem alGet_alSet (j k : String) (b : Bool) (L : List (String × Bool)) :
    alGet j (alSet k b L) = if k = j then some b else alGet j L := by
  induction L with
  | nil => simp only [alSet, alGet_cons]
  | cons x r ih =>
    obtain ⟨k', v'⟩ := x
    rw [alSet_cons]
    by_cases h1 : k' = k
    · subst h1; simp only [if_true, alGet_cons]; split <;> rfl
    · simp only [if_neg h1, alGet_cons, ih]
      by_cases h2 : k' = j
      · subst h2; simp [Ne.symm h1]
      · simp [h2]

/-- assignments to two different keys commute when the first key is already present (otherwise the
    insertion order of the two NEW keys differs — as in a Python dict) -/
theorem alSet_comm (k key : String) (b v : Bool) (hne : k ≠ key) (M : List (String × Bool))
    (hk : (alGet k M).isSome = true) :
    alSet k b (alSet key v M) = alSet key v (alSet k b M) := by
  induction M with
  | nil => simp [alGet] at hk
  | cons x r ih =>
    obtain ⟨k', v'⟩ := x
    by_cases h1 : k' = key
    · subst h1
      have h2 : ¬ k' = k := fun e => hne e.symm
      simp [alSet_cons, h2]
    · by_cases h2 : k' = k
      · subst h2; simp [alSet_cons, h1]
      · have hk' : (alGet k r).isSome = true := by simpa [alGet_cons, h2] using hk
        simp [alSet_cons, h1, h2, ih hk']

/-- the `REPORT_*` reset of `set_report_style` on one entry -/
def clrReport : String × Bool → String × Bool :=
  fun (k, v) => if k.startsWith "REPORT_" then (k, false) else (k, v)

theorem clrReport_mk (k : String) (v : Bool) :
    clrReport (k, v) = (k, !k.startsWith "REPORT_" && v) := by
  show (if k.startsWith "REPORT_" then (k, false) else (k, v)) = _
  cases k.startsWith "REPORT_" <;> rfl

theorem map_clrReport_alSet (k : String) (b : Bool) (hk : k.startsWith "REPORT_" = false)
    (L : List (String × Bool)) : (alSet k b L).map clrReport = alSet k b (L.map clrReport) := by
  induction L with
  | nil => simp [alSet, clrReport_mk, hk]
  | cons x r ih =>
    obtain ⟨k', v'⟩ := x
    rw [List.map_cons, clrReport_mk, alSet_cons, alSet_cons]
    split
    · simp [clrReport_mk, hk]
    · simp [clrReport_mk, ih]

theorem alGet_map_clrReport_isSome (k : String) (L : List (String × Bool)) :
    (alGet k (L.map clrReport)).isSome = (alGet k L).isSome := by
  induction L with
  | nil => rfl
  | cons x r ih =>
    obtain ⟨k', v'⟩ := x
    rw [List.map_cons, clrReport_mk, alGet_cons, alGet_cons]
    split <;> simp [ih]

/-- the boolean table after `set_report_style(key)` -/
def reportTable (key : String) (L : List (String × Bool)) : List (String × Bool) :=
  alSet key true (L.map clrReport)

theorem RState.setReportStyle_gBools (s : RState) (key : String) :
    s.setReportStyle key = { s with gBools := reportTable key s.gBools } := rfl

theorem foldl_reportTable (key : String) (D : List (String × Bool)) (L : List (String × Bool))
    (h : ∀ kv ∈ D, kv.1.startsWith "REPORT_" = false ∧ kv.1 ≠ key ∧ (alGet kv.1 L).isSome = true) :
    D.foldl (fun acc kv => alSet kv.1 kv.2 acc) (reportTable key L) =
      reportTable key (D.foldl (fun acc kv => alSet kv.1 kv.2 acc) L) := by
  induction D generalizing L with
  | nil => rfl
  | cons x D ih =>
    obtain ⟨k, b⟩ := x
    obtain ⟨h1, h2, h3⟩ := h (k, b) (by simp)
    simp only [List.foldl_cons]
    have step : alSet k b (reportTable key L) = reportTable key (alSet k b L) := by
      unfold reportTable
      rw [alSet_comm k key b true h2 _ (by rw [alGet_map_clrReport_isSome]; exact h3), map_clrReport_alSet k b h1]
    rw [step]
    apply ih
    intro kv hkv
    obtain ⟨a1, a2, a3⟩ := h kv (List.mem_cons_of_mem _ hkv)
    refine ⟨a1, a2, ?_⟩
    rw [alGet_alSet]
    split
    · rfl
    · exact a3

/-- the directives `# xdoctest: +K1, -K2, …` of a leading block comment -/
def leadingBlock (D : List (String × Bool)) : List Directive :=
  D.map fun kv => { name := kv.1, positive := kv.2, inline := false }

theorem RState.applyDirective_plain (sat : Str → Option Bool) (s : RState) (k : String) (b : Bool)
    (hk : k ≠ "REQUIRES") (hr : k.startsWith "REPORT_" = false) :
    s.applyDirective sat { name := k, positive := b, inline := false } =
      some { s with gBools := alSet k b s.gBools } := by
  have hk' : (k == "REQUIRES") = false := by simpa using hk
  simp [RState.applyDirective, Directive.effects, hk', hr, RState.applyEffect]

theorem foldlM_leadingBlock (sat : Str → Option Bool) (D : List (String × Bool)) (s : RState)
    (h : ∀ kv ∈ D, kv.1 ≠ "REQUIRES" ∧ kv.1.startsWith "REPORT_" = false) :
    (leadingBlock D).foldlM (RState.applyDirective sat) s =
      some { s with gBools := D.foldl (fun acc kv => alSet kv.1 kv.2 acc) s.gBools } := by
  induction D generalizing s with
  | nil => rfl
  | cons x D ih =>
    obtain ⟨k, b⟩ := x
    obtain ⟨h1, h2⟩ := h (k, b) (by simp)
    simp only [leadingBlock, List.map_cons, List.foldlM_cons, RState.applyDirective_plain sat s k b h1 h2,
      Option.bind_eq_bind, Option.bind_some]
    have := ih { s with gBools := alSet k b s.gBools } (fun kv hkv => h kv (List.mem_cons_of_mem _ hkv))
    simpa [leadingBlock] using this

theorem RState.update_leadingBlock (sat : Str → Option Bool) (D : List (String × Bool)) (s : RState)
    (h : ∀ kv ∈ D, kv.1 ≠ "REQUIRES" ∧ kv.1.startsWith "REPORT_" = false) :
    s.update sat (leadingBlock D) = some { s with
      gBools := D.foldl (fun acc kv => alSet kv.1 kv.2 acc) s.gBools, iBools := [], iReq := none } :=
  foldlM_leadingBlock sat D _ h

theorem mem_setInsert (v x : Str) (s : List Str) : x ∈ setInsert v s ↔ x ∈ s ∨ x = v := by
  unfold setInsert
  split
  · rename_i h
    have : v ∈ s := by simpa using h
    exact ⟨Or.inl, fun h' => h'.elim id (· ▸ this)⟩
  · simp

theorem mem_setErase (v x : Str) (s : List Str) : x ∈ setErase v s ↔ x ∈ s ∧ x ≠ v := by
  simp [setErase]

theorem effects_requires_total (satb : Str → Bool) (pos inl : Bool) (args : List Str) :
    ({ name := "REQUIRES", positive := pos, args := args, inline := inl } : Directive).effects (fun a => some (satb a))
      = some (args.map fun a => if satb a then Effect.noop
          else (if pos then Effect.setAdd "REQUIRES" a else Effect.setRemove "REQUIRES" a)) := by
  simp only [Directive.effects, beq_self_eq_true, if_true]
  induction args with
  | nil => rfl
  | cons a as ih =>
    simp only [List.mapM_cons, List.map_cons, ih]
    cases satb a <;> rfl

theorem mem_gReq_foldl_requires (satb : Str → Bool) (pos : Bool) (args : List Str) (s : RState)
    (x : Str) :
    x ∈ ((args.map fun a => if satb a then Effect.noop
          else (if pos then Effect.setAdd "REQUIRES" a else Effect.setRemove "REQUIRES" a)).foldl
        (RState.applyEffect false) s).gReq ↔
      if pos then x ∈ s.gReq ∨ (x ∈ args ∧ satb x = false)
      else x ∈ s.gReq ∧ ¬ (x ∈ args ∧ satb x = false) := by
  induction args generalizing s with
  | nil => cases pos <;> simp
  | cons a as ih =>
    rw [List.map_cons, List.foldl_cons, ih]
    by_cases hx : x = a
    · subst hx
      cases pos <;> cases ha : satb x <;> simp [RState.applyEffect, mem_setInsert, mem_setErase]
    · cases pos <;> cases satb a <;> simp [RState.applyEffect, mem_setInsert, mem_setErase, hx]

theorem effects_no_report {sat : Str → Option Bool} {d : Directive}
    (h : d.name.startsWith "REPORT_" = false) {es : List Effect} (he : d.effects sat = some es) :
    ∀ e ∈ es, ∀ k, e ≠ .setReportStyle k := by
  rintro e hmem k rfl
  unfold Directive.effects at he
  split at he
  · -- every element produced by the REQUIRES branch is noop / setAdd / setRemove
    obtain ⟨a, _, ha⟩ := mem_of_mapM_eq_some he _ hmem
    split at ha
    · cases ha
    · cases ha
    · split at ha <;> cases ha
  · rw [h] at he
    cases he
    simp at hmem

theorem RState.applyEffect_inline_persist (s : RState) (e : Effect) (h : ∀ k, e ≠ .setReportStyle k) :
    (RState.applyEffect true s e).gBools = s.gBools ∧ (RState.applyEffect true s e).gReq = s.gReq := by
  cases e with
  | setReportStyle k => exact absurd rfl (h k)
  | _ => exact ⟨rfl, rfl⟩

theorem foldl_inline_persist (s : RState) (es : List Effect) (h : ∀ e ∈ es, ∀ k, e ≠ .setReportStyle k) :
    (es.foldl (RState.applyEffect true) s).gBools = s.gBools ∧
    (es.foldl (RState.applyEffect true) s).gReq = s.gReq := by
  induction es generalizing s with
  | nil => exact ⟨rfl, rfl⟩
  | cons e es ih =>
    have h1 := RState.applyEffect_inline_persist s e (h e List.mem_cons_self)
    have h2 := ih (RState.applyEffect true s e) (fun e' he' => h e' (List.mem_cons_of_mem _ he'))
    exact ⟨h2.1.trans h1.1, h2.2.trans h1.2⟩

theorem RState.applyDirective_inline_persist (sat : Str → Option Bool) {d : Directive}
    (hi : d.inline = true) (hn : d.name.startsWith "REPORT_" = false) {s s1 : RState}
    (h : RState.applyDirective sat s d = some s1) : s1.gBools = s.gBools ∧ s1.gReq = s.gReq := by
  obtain ⟨es, he, rfl⟩ := Option.map_eq_some_iff.mp h
  rw [hi]
  exact foldl_inline_persist s es (effects_no_report hn he)

theorem RState.update_congr {s s' : RState} (hb : s.gBools = s'.gBools) (hr : s.gReq = s'.gReq)
    (sat : Str → Option Bool) (ds : List Directive) : s.update sat ds = s'.update sat ds := by
  unfold RState.update
  rw [hb, hr]

theorem RState.skips_eq_false_iff (rs : RState) :
    rs.skips = false ↔ (rs.getBool "SKIP").getD false = false ∧ rs.requires = [] := by
  simp [RState.skips]

end Xdoc
