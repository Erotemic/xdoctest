/-! Two rules for a `List.foldlM` in `Except`, which is how the model writes the labeller, pass 3 of the
grouping and the directive scan of `_package_chunk`: an invariant rule for the run that succeeds
(`Inv pre b` reads "`b` is the state after the items `pre`"), and the failing step of a run that fails. -/
namespace Xdoc

theorem foldlM_ok_inv {α β ε : Type} {f : β → α → Except ε β} (Inv : List α → β → Prop)
    {xs : List α} {b b' : β} (h : xs.foldlM f b = .ok b') (h0 : Inv [] b)
    (hstep : ∀ pre x rest c c1, xs = pre ++ x :: rest → Inv pre c → f c x = .ok c1 → Inv (pre ++ [x]) c1) :
    Inv xs b' := by
  suffices ∀ (ys pre : List α) (c : β), xs = pre ++ ys → Inv pre c → ys.foldlM f c = .ok b' → Inv xs b' from
    this xs [] b rfl h0 h
  intro ys
  induction ys with
  | nil => intro pre c e hi hc; cases hc; simpa [e] using hi
  | cons x ys ih =>
    intro pre c e hi hc
    rw [List.foldlM_cons] at hc
    cases hx : f c x with
    | error e' => rw [hx] at hc; cases hc
    | ok c1 =>
      rw [hx] at hc
      exact ih (pre ++ [x]) c1 (by simp [e]) (hstep pre x ys c c1 e hi hx) hc

theorem foldlM_error {α β ε : Type} {f : β → α → Except ε β} {xs : List α} {b : β} {e : ε}
    (h : xs.foldlM f b = .error e) : ∃ c x, x ∈ xs ∧ f c x = .error e := by
  induction xs generalizing b with
  | nil => cases h
  | cons x xs ih =>
    rw [List.foldlM_cons] at h
    cases hx : f b x with
    | error e1 => rw [hx] at h; cases h; exact ⟨b, x, by simp, hx⟩
    | ok b1 =>
      rw [hx] at h
      obtain ⟨c, y, hy, hf⟩ := ih h
      exact ⟨c, y, by simp [hy], hf⟩

end Xdoc
