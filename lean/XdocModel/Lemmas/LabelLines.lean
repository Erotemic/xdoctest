import XdocModel.Lemmas.LabelStep
import XdocModel.Lemmas.Str
/-!
# What `labelLines` returns

One labelled line per input line, verbatim except for the triple-quote hack of `_complete_source`
(`labelLines_lines`; the hack never fires when no line contains a triple quote: `labelLines_verbatim`),
and a want never comes first or directly after text (`labelLines_wantFollows`). Each is an invariant
of the fold, kept by every branch of the step (`labelStep_ok_cases`). The folds also carry
`st.curLab.isSrc = true`: `curLab` starts as `.dsrc` and only source lines assign it, and a
continuation line inherits it as its label.
-/
namespace Xdoc.Parser
open Xdoc Py Lexer

/-- core has no `List.Forall₂` -/
inductive Forall2 {α β : Type} (R : α → β → Prop) : List α → List β → Prop
  | nil : Forall2 R [] []
  | cons {a : α} {b : β} {as : List α} {bs : List β} : R a b → Forall2 R as bs → Forall2 R (a :: as) (b :: bs)

theorem Forall2.length_eq {α β : Type} {R : α → β → Prop} {as : List α} {bs : List β}
    (h : Forall2 R as bs) : as.length = bs.length := by
  induction h with
  | nil => rfl
  | cons _ _ ih => simp [ih]

theorem Forall2.getElem? {α β : Type} {R : α → β → Prop} {as : List α} {bs : List β}
    (h : Forall2 R as bs) (i : Nat) (b : β) (hb : bs[i]? = some b) : ∃ a, as[i]? = some a ∧ R a b := by
  induction h generalizing i with
  | nil => simp at hb
  | @cons a b' as' bs' hr _ ih =>
    cases i with
    | zero => simp at hb; subst hb; exact ⟨a, rfl, hr⟩
    | succ j => simpa using ih j (by simpa using hb)

theorem Forall2.snoc {α β : Type} {R : α → β → Prop} {as : List α} {bs : List β} {a : α} {b : β}
    (h : Forall2 R as bs) (hab : R a b) : Forall2 R (as ++ [a]) (bs ++ [b]) := by
  induction h with
  | nil => exact .cons hab .nil
  | cons h1 _ ih => exact .cons h1 ih

/-- what the labeller may do to a line: nothing, or (triple-quote hack of `_complete_source`) insert
    the continuation prompt `... ` at some column -/
def HackRel (line out : Str) : Prop :=
  out = line ∨ ∃ k, out = line.take k ++ "... ".toList ++ line.drop k

def LineRel (line : Str) (p : LLine) : Prop :=
  HackRel line p.2 ∧ (p.1.isSrc = false → p.2 = line)

theorem labelStep_out {st st' : LabelState} {line : Str} (hc : st.curLab.isSrc = true)
    (h : labelStep st line = .ok st') :
    st'.curLab.isSrc = true ∧
    ∃ lab o, st'.out = st.out ++ [(lab, o)] ∧ HackRel line o ∧ (lab.isSrc = false → o = line) := by
  refine labelStep_ok_cases h ?_ ?_ ?_ ?_
  · intro parts _
    exact ⟨by rw [LabelState.emitSrc_curLab]; exact contLabel_isSrc _ hc,
      _, _, LabelState.emitSrc_out .., Or.inl rfl, fun _ => rfl⟩
  · intro parts _ _
    exact ⟨by rw [LabelState.emitSrc_curLab]; rfl,
      _, _, LabelState.emitSrc_out .., Or.inr ⟨st.sind, rfl⟩, fun h => by cases h⟩
  · intro _ cur sind hcur
    exact ⟨by rw [LabelState.emitSrc_curLab]; exact contLabel_isSrc _ hcur,
      _, _, LabelState.emitSrc_out .., Or.inl rfl, fun _ => rfl⟩
  · intro _ sind _
    exact ⟨hc, _, _, rfl, Or.inl rfl, fun _ => rfl⟩

theorem labelLines_lines {ls : List Str} {out : List LLine} (h : labelLines ls = .ok out) :
    Forall2 LineRel ls out := by
  obtain ⟨st, hst, -, rfl⟩ := labelLines_ok_iff.mp h
  refine (foldlM_ok_inv (fun pre st => st.curLab.isSrc = true ∧ Forall2 LineRel pre st.out) hst ⟨rfl, .nil⟩ ?_).2
  rintro pre l - st st1 - ⟨hc, hall⟩ hs
  obtain ⟨hc1, lab, o, ho, hr, hv⟩ := labelStep_out hc hs
  exact ⟨hc1, ho ▸ hall.snoc ⟨hr, hv⟩⟩

theorem containsTriple_drop {n : Nat} {s : Str} (h : containsTriple s = false) : containsTriple (s.drop n) = false := by
  have hi := (List.drop_suffix n s).isInfix
  unfold containsTriple at h ⊢
  rw [Bool.or_eq_false_iff] at h ⊢
  exact ⟨not_contains_of_infix hi h.1, not_contains_of_infix hi h.2⟩

def NoTripleSt (st : LabelState) : Prop :=
  ∀ parts, st.pending = some parts → parts.any containsTriple = false

theorem labelStep_noTriple {st st' : LabelState} {line : Str} (hl : containsTriple line = false)
    (hi : NoTripleSt st) (h : labelStep st line = .ok st') :
    NoTripleSt st' ∧ ∃ lab, st'.out = st.out ++ [(lab, line)] := by
  refine labelStep_ok_cases h ?_ ?_ ?_ ?_
  · intro parts hp
    refine ⟨fun p hp' => ?_, _, LabelState.emitSrc_out ..⟩
    rw [LabelState.emitSrc_pending _ _ _ _ _ hp']
    simp only [List.any_append, hi parts hp, List.any_cons, List.any_nil, Bool.or_false, Bool.false_or]
    exact containsTriple_drop (containsTriple_drop hl)
  · intro parts hp ht
    rw [hi parts hp] at ht; cases ht
  · intro _ cur sind _
    refine ⟨fun p hp' => ?_, _, LabelState.emitSrc_out ..⟩
    rw [LabelState.emitSrc_pending _ _ _ _ _ hp']
    simp only [List.any_cons, List.any_nil, Bool.or_false]
    exact containsTriple_drop (containsTriple_drop hl)
  · intro hp sind _
    exact ⟨fun p hp' => (nomatch hp.symm.trans hp'), _, rfl⟩

theorem labelLines_verbatim {ls : List Str} {out : List LLine}
    (hl : ∀ l ∈ ls, containsTriple l = false) (h : labelLines ls = .ok out) :
    out.map (·.2) = ls := by
  obtain ⟨st, hst, -, rfl⟩ := labelLines_ok_iff.mp h
  refine (foldlM_ok_inv (fun pre st => NoTripleSt st ∧ st.out.map (·.2) = pre) hst
    ⟨fun p hp => (nomatch hp), rfl⟩ ?_).2
  rintro pre l rest st st1 rfl ⟨hi, hout⟩ hs
  obtain ⟨hi1, lab, ho⟩ := labelStep_noTriple (hl l (by simp)) hi hs
  exact ⟨hi1, by rw [ho, List.map_append, hout]; rfl⟩

def WantFollows (out : List LLine) : Prop :=
  ∀ pre p rest, out = pre ++ p :: rest → p.1 = .want → ∃ pre' q, pre = pre' ++ [q] ∧ q.1 ≠ .text

theorem wantFollows_snoc {out : List LLine} {x : LLine} (h : WantFollows out)
    (hx : x.1 = .want → ∃ pre' q, out = pre' ++ [q] ∧ q.1 ≠ .text) : WantFollows (out ++ [x]) := by
  intro pre p rest he hp
  rcases List.eq_nil_or_concat rest with rfl | ⟨rest', y, rfl⟩
  · obtain ⟨rfl, hxp⟩ := List.append_inj' he rfl
    cases hxp
    exact hx hp
  · rw [List.concat_eq_append, ← List.cons_append, ← List.append_assoc] at he
    exact h pre p rest' (List.append_inj' he rfl).1 hp

def LastInv (st : LabelState) : Prop :=
  st.pending = none → (st.out = [] ∧ st.prev = .text) ∨ ∃ pre q, st.out = pre ++ [q] ∧ q.1 = st.prev

theorem LabelState.emitSrc_wantFollows {st : LabelState} (sind : Nat) {lab : Label} (o : Str) (parts : List Str)
    (hl : lab.isSrc = true) (hw : WantFollows st.out) :
    WantFollows (st.emitSrc sind lab o parts).out ∧ LastInv (st.emitSrc sind lab o parts) := by
  refine ⟨?_, fun hpn => Or.inr ⟨st.out, (lab, o), LabelState.emitSrc_out .., (LabelState.emitSrc_done _ _ _ _ _ hpn).symm⟩⟩
  rw [LabelState.emitSrc_out]
  exact wantFollows_snoc hw (fun hx => by rw [show lab = .want from hx] at hl; cases hl)

theorem nextLabel_want {prev : Label} {sind : Nat} {line : Str} (h : nextLabel prev sind line = .want) :
    prev ≠ .text := by
  rintro rfl
  simp only [nextLabel] at h
  split at h <;> cases h

theorem labelStep_want {st st' : LabelState} {line : Str} (hc : st.curLab.isSrc = true)
    (hw : WantFollows st.out) (hi : LastInv st) (h : labelStep st line = .ok st') :
    WantFollows st'.out ∧ LastInv st' := by
  refine labelStep_ok_cases h ?_ ?_ ?_ ?_
  · intro parts _
    exact LabelState.emitSrc_wantFollows _ _ _ (contLabel_isSrc _ hc) hw
  · intro parts _ _
    exact LabelState.emitSrc_wantFollows _ _ _ rfl hw
  · intro _ cur sind hcur
    exact LabelState.emitSrc_wantFollows _ _ _ (contLabel_isSrc _ hcur) hw
  · intro hp sind _
    refine ⟨wantFollows_snoc hw (fun hx => ?_), fun _ => Or.inr ⟨_, _, rfl, rfl⟩⟩
    have hne := nextLabel_want hx
    rcases hi hp with ⟨_, hpt⟩ | ⟨pre', q, ho, hq⟩
    · exact absurd hpt hne
    · exact ⟨pre', q, ho, by rw [hq]; exact hne⟩

theorem labelLines_wantFollows {ls : List Str} {out : List LLine} (h : labelLines ls = .ok out) :
    WantFollows out := by
  obtain ⟨st, hst, -, rfl⟩ := labelLines_ok_iff.mp h
  refine (foldlM_ok_inv (fun _ st => st.curLab.isSrc = true ∧ WantFollows st.out ∧ LastInv st) hst
    ⟨rfl, fun pre p rest he => by simp at he, fun _ => Or.inl ⟨rfl, rfl⟩⟩ ?_).2.1
  rintro - l - st st1 - ⟨hc, hw, hi⟩ hs
  exact ⟨(labelStep_out hc hs).1, labelStep_want hc hw hi hs⟩

end Xdoc.Parser
