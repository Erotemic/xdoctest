import XdocModel.Checker
import XdocModel.Lemmas.Str
namespace Xdoc
open Py Re

/-- what NORMALIZE_REPR may do to a text: nothing, or (when `nr`) strip one pair of quotes -/
inductive UnqRel (nr : Bool) : Str → Str → Prop
  | same (a) : UnqRel nr a a
  | unq (q : Char) (a a' : Str) : nr = true → (q = '"' ∨ q = '\'') → unquote? q a = some a' →
      UnqRel nr a a'

/-- the quote alone counts as quoted: Python's `'"'[1:-1] == ''` -/
theorem unquote?_eq_some {q : Char} {a a' : Str} :
    unquote? q a = some a' ↔ (a = [q] ∧ a' = []) ∨ a = q :: (a' ++ [q]) := by
  unfold unquote?
  cases a with
  | nil => simp
  | cons c t =>
    rcases List.eq_nil_or_concat t with rfl | ⟨t', d, rfl⟩
    · simp
    · rw [List.concat_eq_append, ← List.cons_append, List.getLast?_concat]
      simp
      exact ⟨fun ⟨⟨h1, h2⟩, h3⟩ => ⟨h1, h3, h2⟩, fun ⟨h1, h3, h2⟩ => ⟨⟨h1, h2⟩, h3⟩⟩

theorem unquote?_infix {q : Char} {a a' : Str} (h : unquote? q a = some a') : a' <:+: a := by
  rcases unquote?_eq_some.mp h with ⟨_, rfl⟩ | rfl
  · exact List.nil_infix
  · exact ⟨[q], [q], rfl⟩

theorem UnqRel.infix {nr : Bool} {a a' : Str} (h : UnqRel nr a a') : a' <:+: a := by
  cases h with
  | same => exact List.infix_refl _
  | unq q a a' _ _ h => exact unquote?_infix h

theorem unquote?_deleteWs {q : Char} (hq : isSpace q = false) {a a' : Str}
    (h : unquote? q a = some a') : unquote? q (deleteWs a) = some (deleteWs a') := by
  have e : deleteWs [q] = [q] := by simp [deleteWs, hq]
  rcases unquote?_eq_some.mp h with ⟨rfl, rfl⟩ | rfl
  · exact unquote?_eq_some.mpr (.inl ⟨e, rfl⟩)
  · refine unquote?_eq_some.mpr (.inr ?_)
    rw [← List.singleton_append, deleteWs_append, deleteWs_append, e]; rfl

theorem UnqRel.deleteWs {nr : Bool} {a a' : Str} (h : UnqRel nr a a') :
    UnqRel nr (deleteWs a) (deleteWs a') := by
  cases h with
  | same => exact .same _
  | unq q a a' hnr hq h =>
    refine .unq q _ _ hnr hq (unquote?_deleteWs ?_ h)
    rcases hq with rfl | rfl
    · exact isSpace_dquote
    · exact isSpace_squote

theorem checkOutput_iff (f : Flags) (g w : Str) :
    checkOutput f g w = true ↔
      w = [] ∨ g = w ∨ checkMatch f (normalize f g w).1 (normalize f g w).2 = true := by
  unfold checkOutput
  by_cases h1 : w = []
  · simp [h1]
  · by_cases h2 : g = w
    · simp [h2]
    · simp [h1, h2]

theorem checkOutput_refl (f : Flags) (s : Str) : checkOutput f s s = true :=
  (checkOutput_iff f s s).mpr (.inr (.inl rfl))

theorem checkOutput_mono {f f' : Flags} {g w : Str} (h : checkOutput f g w = true)
    (hm : checkMatch f (normalize f g w).1 (normalize f g w).2 = true →
      checkMatch f' (normalize f' g w).1 (normalize f' g w).2 = true) :
    checkOutput f' g w = true := by
  rw [checkOutput_iff] at h ⊢
  exact h.imp_right (Or.imp_right hm)

theorem checkMatch_map {f f' : Flags} (he : f.ellipsis = true → f'.ellipsis = true) (φ : Str → Str)
    {a b : Str}
    (hφ : f.ellipsis = true → ellipsisMatch a b = true → ellipsisMatch (φ a) (φ b) = true)
    (h : checkMatch f a b = true) : checkMatch f' (φ a) (φ b) = true := by
  simp only [checkMatch, Bool.or_eq_true, beq_iff_eq, Bool.and_eq_true] at h ⊢
  rcases h with h | ⟨h1, h2⟩
  · exact Or.inl (by rw [h])
  · exact Or.inr ⟨he h1, hφ h1 h2⟩

theorem checkException_iff (f : Flags) (line want : Str) :
    checkException f line want = some true ↔
      ∃ ew, extractExcWant want = some ew ∧
        (checkOutput f line ew = true ∨
          (f.ignDetail = true ∧ stripExceptionDetails ew ≠ [] ∧
            checkOutput f (stripExceptionDetails line) (stripExceptionDetails ew) = true)) := by
  unfold checkException
  cases h : extractExcWant want with
  | none => simp
  | some ew =>
    simp only [Option.some.injEq, exists_eq_left']
    by_cases h1 : checkOutput f line ew = true
    · simp [h1]
    · by_cases h2 : f.ignDetail = true
      · simp [h1, h2]
      · simp [h1, h2]

end Xdoc
