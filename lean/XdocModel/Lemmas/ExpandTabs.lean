import XdocModel.Parser
/-! `str.expandtabs`, as far as the parser needs it: it leaves no tab, and it leaves a text without tabs alone. -/
namespace Xdoc.Parser
open Xdoc Py

theorem expandTabsGo_of_noTab (s : Str) (h : '\t' ∉ s) (col : Nat) : expandTabsGo col s = s := by
  induction s generalizing col with
  | nil => rfl
  | cons c s ih =>
    have hc : c ≠ '\t' := fun e => h (by simp [e])
    have hs : '\t' ∉ s := fun hm => h (List.mem_cons_of_mem _ hm)
    simp only [expandTabsGo, beq_iff_eq, hc, ↓reduceIte, Bool.or_eq_true]
    split <;> rw [ih hs]

theorem tab_not_mem_expandTabsGo (col : Nat) (s : Str) : '\t' ∉ expandTabsGo col s := by
  induction s generalizing col with
  | nil => simp [expandTabsGo]
  | cons c s ih =>
    simp only [expandTabsGo]
    split
    · intro hm
      rcases List.mem_append.mp hm with hm | hm
      · cases List.eq_of_mem_replicate hm
      · exact ih _ hm
    · next hc =>
      have hne : '\t' ≠ c := fun e => hc (by simp [← e])
      split <;> simp [hne, ih]

end Xdoc.Parser
