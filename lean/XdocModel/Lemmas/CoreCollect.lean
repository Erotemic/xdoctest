import XdocModel.CoreCollect
/-!
# Lemmas about `CoreCollect.lean`: the numbering of google examples, the three styles, the freeform loop

The freeform part is built around the loop invariant `FInv`: `curr_offset` is the offset of the first kept part.
-/
namespace Xdoc.Core
open Xdoc Py Google

/-- `enumFrom` is Python's `enumerate` -/
theorem enumFrom_eq {α β : Type} (f : Nat → α → β) (n : Nat) (l : List α) :
    enumFrom f n l = (l.zipIdx n).map fun p => f p.2 p.1 := by
  induction l generalizing n with
  | nil => rfl
  | cons a as ih => simp [enumFrom, ih]

theorem enumFrom_length {α β : Type} (f : Nat → α → β) (n : Nat) (l : List α) :
    (enumFrom f n l).length = l.length := by
  simp [enumFrom_eq]

theorem enumFrom_getElem? {α β : Type} (f : Nat → α → β) (n i : Nat) (l : List α) :
    (enumFrom f n l)[i]? = (l[i]?).map (f (n + i)) := by
  simp [enumFrom_eq, Function.comp_def]

theorem takeOk_all {α : Type} (l : List α) (oks : List Bool) (h : ∀ b ∈ oks, b = true) :
    takeOk l oks = (l, false) := by
  induction l generalizing oks with
  | nil => rfl
  | cons a as ih =>
    cases oks with
    | nil => simp [takeOk, ih [] (by simp)]
    | cons ok oks =>
      have h1 : ok = true := h ok (by simp)
      simp [takeOk, h1, ih oks (fun b hb => h b (List.mem_cons_of_mem _ hb))]

/-- a parse error in block `k` keeps blocks `0..k-1` -/
theorem takeOk_prefix {α : Type} (l : List α) (oks : List Bool) : (takeOk l oks).1 <+: l := by
  induction l generalizing oks with
  | nil => simp [takeOk]
  | cons a as ih =>
    cases oks with
    | nil => simpa [takeOk] using ih []
    | cons ok oks =>
      cases ok
      · simp [takeOk]
      · simpa [takeOk] using ih oks

theorem freeform_of_nil {pieces : List FPiece} (callname : Str) (lineno : Nat)
    (h : (pieces.foldl fstep {}).curParts = []) : freeform pieces callname lineno = [] := by
  simp only [freeform, h]

theorem freeform_of_cons {pieces : List FPiece} (callname : Str) (lineno : Nat) {p0 : Part} {ps : List Part}
    (h : (pieces.foldl fstep {}).curParts = p0 :: ps) :
    freeform pieces callname lineno =
      [{ callname := callname, num := 0, lineno := lineno + (pieces.foldl fstep {}).currOffset,
         docsrc := docsrcOfParts (p0 :: ps), parts := some (rebase (p0 :: ps)) }] := by
  simp only [freeform, h]

theorem freeformYield_cases (pieces : Option (List FPiece)) (callname : Str) (lineno : Nat) :
    freeformYield pieces callname lineno = [] ∨
      ∃ e, freeformYield pieces callname lineno = [e] ∧ e.num = 0 := by
  cases pieces with
  | none => exact Or.inl rfl
  | some ps =>
    cases h : (ps.foldl fstep {}).curParts with
    | nil => exact Or.inl (freeform_of_nil callname lineno h)
    | cons p0 rest => exact Or.inr ⟨_, freeform_of_cons callname lineno h, rfl⟩

theorem parseDocstrExamples_freeform (docstr callname : Str) (lineno : Nat) (gOk : List Bool)
    (pieces : Option (List FPiece)) :
    parseDocstrExamples .freeform docstr callname lineno gOk pieces = freeformYield pieces callname lineno := rfl

theorem parseDocstrExamples_google (docstr callname : Str) (lineno : Nat) (gOk : List Bool)
    (pieces : Option (List FPiece)) :
    parseDocstrExamples .google docstr callname lineno gOk pieces = (googleYield docstr callname lineno gOk).1 := rfl

theorem parseDocstrExamples_auto (docstr callname : Str) (lineno : Nat) (gOk : List Bool)
    (pieces : Option (List FPiece)) :
    parseDocstrExamples .auto docstr callname lineno gOk pieces =
      if (googleYield docstr callname lineno gOk).1 = [] then freeformYield pieces callname lineno
      else (googleYield docstr callname lineno gOk).1 := by
  simp only [parseDocstrExamples]
  split
  · rename_i h; rw [if_pos h]
  · rename_i h; rw [if_neg h]

theorem rebase_getElem? (p0 : Part) (ps : List Part) (k : Nat) :
    (rebase (p0 :: ps))[k]? = ((p0 :: ps)[k]?).map fun p => { p with lineOffset := p.lineOffset - p0.lineOffset } := by
  cases k <;> simp [rebase]

/-- number of lines a piece occupies in the docstring (as the freeform loop counts them) -/
def pieceSize : FPiece → Nat
  | .text s => countChar '\n' s + 1
  | .part p => p.nLines

/-- the parser's output tiles the docstring: every part's `line_offset` is the number of lines of
    all pieces before it (theorem `parse_partition` of C13 for the real parser) -/
def Tiled : Nat → List FPiece → Prop
  | _, [] => True
  | off, .text s :: r => Tiled (off + pieceSize (.text s)) r
  | off, .part p :: r => p.lineOffset = off ∧ Tiled (off + p.nLines) r

instance tiledDecidable : ∀ off fs, Decidable (Tiled off fs)
  | _, [] => isTrue trivial
  | off, .text s :: r => tiledDecidable (off + pieceSize (.text s)) r
  | off, .part p :: r => @instDecidableAnd _ _ _ (tiledDecidable (off + p.nLines) r)

/-- loop invariant of `parse_freeform_docstr_examples`, `off` being the number of lines of the pieces seen -/
structure FInv (st : FState) (off : Nat) : Prop where
  le : st.currOffset ≤ off
  ofNil : st.curParts = [] → st.currOffset = off
  ofHead : ∀ p0, st.curParts.head? = some p0 → st.currOffset = p0.lineOffset
  below : ∀ p ∈ st.curParts, st.currOffset ≤ p.lineOffset

theorem FInv.init : FInv {} 0 :=
  ⟨Nat.le_refl _, fun _ => rfl, fun _ h => (nomatch h), fun _ h => (nomatch h)⟩

theorem FInv.step {st : FState} {off : Nat} (hi : FInv st off) (x : FPiece)
    (hx : ∀ p, x = .part p → p.lineOffset = off) : FInv (fstep st x) (off + pieceSize x) := by
  obtain ⟨cur, co, prev, ign⟩ := st
  obtain ⟨h0, h1, h2, h3⟩ := hi
  simp only at h0 h1 h2 h3
  -- as long as nothing is kept the offset moves with the line count; afterwards it stays
  have keep : ∀ n pv ig, FInv ⟨cur, if cur.isEmpty then co + n else co, pv, ig⟩ (off + n) := fun n _ _ => by
    cases cur with
    | nil => cases h1 rfl; exact ⟨Nat.le_refl _, fun _ => rfl, fun _ h => (nomatch h), fun _ h => (nomatch h)⟩
    | cons a as => exact ⟨Nat.le_add_right_of_le h0, fun h => (nomatch h), h2, h3⟩
  cases x with
  | text s => exact keep _ _ _
  | part p =>
    simp only [fstep]
    split
    · exact keep _ _ _
    · have hp : p.lineOffset = off := hx p rfl
      -- the new part sits at the running line count, which the offset never exceeds
      refine ⟨Nat.le_add_right_of_le h0, fun h => absurd h (by cases cur <;> simp), ?_, fun q hq =>
        (List.mem_append.mp hq).elim (h3 q) fun h => by rw [List.mem_singleton.mp h, hp]; exact h0⟩
      cases cur with
      | nil => intro p0 h; cases h; rw [h1 rfl, hp]
      | cons a as => exact h2

theorem FInv.foldl (ps : List FPiece) (st : FState) (off : Nat) (hi : FInv st off) (ht : Tiled off ps) :
    FInv (ps.foldl fstep st) (off + (ps.map pieceSize).sum) := by
  induction ps generalizing st off with
  | nil => exact hi
  | cons x r ih =>
    rw [List.map_cons, List.sum_cons, ← Nat.add_assoc]
    cases x with
    | text s => exact ih _ _ (hi.step (.text s) (fun _ h => nomatch h)) ht
    | part p => exact ih _ _ (hi.step (.part p) (fun _ h => by cases h; exact ht.1)) ht.2

end Xdoc.Core
