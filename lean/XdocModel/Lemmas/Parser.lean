import XdocModel.Lemmas.Chunk
import XdocModel.Lemmas.LabelLines
import XdocModel.Lemmas.Grouping
/-! `packageGroups` and `parse`: what a successful run is made of, and that `packageGroups` tiles the
chunk lines with its running line counter (`Tiles`). -/
namespace Xdoc.Parser
open Xdoc Py Lexer

/-- `WantFollows` states what the labeller guarantees about a whole list (a decomposition at every
    `want`); `WantAfter` is the same read off along the list, the form the inductions over the
    grouping passes need. `labOf` gives the label before the first line (none: `text`). -/
theorem wantAfter_of_wantFollows (pre out : List LLine) (h : WantFollows (pre ++ out)) :
    WantAfter (· ≠ .text) (labOf pre.getLast?) (out.map (·.1)) := by
  induction out generalizing pre with
  | nil => trivial
  | cons x xs ih =>
    refine ⟨fun hx => ?_, ?_⟩
    · obtain ⟨pre', q, hq, hqt⟩ := h pre x xs rfl hx
      simpa [hq] using hqt
    · simpa using ih (pre ++ [x]) (by simpa using h)

theorem chunksOf_ok_iff {docstr : Str} {chunks : List Chunk} :
    chunksOf docstr = .ok chunks ↔
      ∃ labeled, labelLines (prepareLines docstr) = .ok labeled ∧ groupLines labeled = .ok chunks := by
  unfold chunksOf
  cases labelLines (prepareLines docstr) <;> simp [bind, Except.bind]

theorem chunksOf_error_iff {docstr : Str} {e : ParseError} :
    chunksOf docstr = .error e ↔ labelLines (prepareLines docstr) = .error e ∨
      ∃ labeled, labelLines (prepareLines docstr) = .ok labeled ∧ groupLines labeled = .error e := by
  unfold chunksOf
  cases labelLines (prepareLines docstr) <;> simp [bind, Except.bind]

theorem parse_ok_iff {docstr : Str} {facts : List ChunkFacts} {ps : List Piece} :
    parse docstr facts = .ok ps ↔
      ∃ chunks, chunksOf docstr = .ok chunks ∧ packageGroups chunks facts 0 = .ok ps := by
  unfold parse chunksOf
  cases labelLines (prepareLines docstr) with
  | error e => simp [bind, Except.bind]
  | ok labeled =>
    simp only [bind, Except.bind]
    cases groupLines labeled with
    | error e => simp
    | ok chunks =>
      simp only [Except.ok.injEq, exists_eq_left']
      cases packageGroups chunks facts 0 <;> simp

theorem parse_error {docstr : Str} {facts : List ChunkFacts} {fp : FailPoint} {e : ParseError}
    (h : parse docstr facts = .error (fp, e)) :
    (fp = .label ∧ labelLines (prepareLines docstr) = .error e) ∨
    (fp = .group ∧ ∃ labeled, labelLines (prepareLines docstr) = .ok labeled ∧ groupLines labeled = .error e) ∨
    (fp = .package ∧ ∃ chunks, chunksOf docstr = .ok chunks ∧ packageGroups chunks facts 0 = .error e) := by
  unfold parse at h
  cases hl : labelLines (prepareLines docstr) with
  | error e' => rw [hl] at h; cases h; exact Or.inl ⟨rfl, rfl⟩
  | ok labeled =>
    cases hg : groupLines labeled with
    | error e' => simp only [hl, hg] at h; cases h; exact Or.inr (Or.inl ⟨rfl, labeled, rfl, hg⟩)
    | ok chunks =>
      have hc : chunksOf docstr = .ok chunks := chunksOf_ok_iff.mpr ⟨labeled, hl, hg⟩
      cases hp : packageGroups chunks facts 0 with
      | error e' => simp only [hl, hg, hp] at h; cases h; exact Or.inr (Or.inr ⟨rfl, chunks, hc, hp⟩)
      | ok ps => simp only [hl, hg, hp] at h; cases h

/-- a code chunk consumes one oracle answer `f`; without one `_package_groups` fails -/
@[elab_as_elim]
theorem packageGroups_ok_induct {motive : List Chunk → List ChunkFacts → Nat → List Piece → Prop}
    (nil : ∀ fs o, motive [] fs o [])
    (text : ∀ ls cs fs o rest, motive cs fs (o + ls.length) rest →
      motive (.text ls :: cs) fs o (.text (joinWith ['\n'] ls) :: rest))
    (code : ∀ src want cs f fs o parts rest, packageChunk src want o f = .ok parts →
      motive cs fs (o + src.length + want.length) rest →
      motive (.code src want :: cs) (f :: fs) o (parts.map Piece.part ++ rest))
    {cs : List Chunk} {fs : List ChunkFacts} {o : Nat} {ps : List Piece}
    (h : packageGroups cs fs o = .ok ps) : motive cs fs o ps := by
  induction cs generalizing fs o ps with
  | nil => cases h; exact nil fs o
  | cons c cs ih =>
    cases c with
    | text ls =>
      simp only [packageGroups, bind, Except.bind, pure, Except.pure] at h
      split at h
      · cases h
      · next rest hrest => cases h; exact text ls cs fs o rest (ih hrest)
    | code src want =>
      simp only [packageGroups, bind, Except.bind, pure, Except.pure] at h
      split at h
      · cases h
      · split at h
        · cases h
        · next parts hparts =>
          split at h
          · cases h
          · next rest hrest =>
            cases h
            cases fs with
            | nil =>
              -- no oracle answer counts as `syntaxError`, on which `locatePs1` fails
              obtain ⟨_, _, hf⟩ := packageChunk_ok_parsed hparts
              cases hf
            | cons f fs => exact code src want cs f fs o parts rest hparts (ih hrest)

/-- `balanced_intervals` of the comment hack gives up: `IncompleteParseError` -/
theorem hackComments_error {lines : List Str} {e : ParseError} (h : hackComments lines = .error e) :
    e = .incomplete := by
  unfold hackComments at h
  split at h
  · cases h; rfl
  · cases h

theorem packageGroups_error {cs : List Chunk} {fs : List ChunkFacts} {o : Nat} {e : ParseError}
    (h : packageGroups cs fs o = .error e) :
    ∃ src want, Chunk.code src want ∈ cs ∧
      ((∃ lines, hackComments lines = .error e) ∨ ∃ o' f, packageChunk src want o' f = .error e) := by
  induction cs generalizing fs o with
  | nil => cases h
  | cons c cs ih =>
    cases c with
    | text ls =>
      simp only [packageGroups, bind, Except.bind] at h
      split at h
      · next hrest =>
        cases h
        obtain ⟨src, want, hm, hw⟩ := ih hrest
        exact ⟨src, want, List.mem_cons_of_mem _ hm, hw⟩
      · cases h
    | code src want =>
      simp only [packageGroups, bind, Except.bind] at h
      split at h
      · next hhack => cases h; exact ⟨src, want, by simp, .inl ⟨_, hhack⟩⟩
      · split at h
        · next hchunk => cases h; exact ⟨src, want, by simp, .inr ⟨_, _, hchunk⟩⟩
        · split at h
          · next hrest =>
            cases h
            obtain ⟨src', want', hm, hw⟩ := ih hrest
            exact ⟨src', want', List.mem_cons_of_mem _ hm, hw⟩
          · cases h

/-- `Tiles ps o L` : the pieces `ps`, in order, tile the lines `L`, the first of which is line `o`
    of the docstring; a chunk's want lines follow its source lines and belong to its last part -/
inductive Tiles : List Piece → Nat → List Str → Prop
  | nil (o : Nat) : Tiles [] o []
  | text {ls : List Str} {ps : List Piece} {o : Nat} {rest : List Str} :
      Tiles ps (o + ls.length) rest → Tiles (.text (joinWith ['\n'] ls) :: ps) o (ls ++ rest)
  | code {parts : List PPart} {ps : List Piece} {o : Nat} {src want rest : List Str} :
      SrcTiles (chunkIndentP src) want parts o src → Tiles ps (o + src.length + want.length) rest →
      Tiles (parts.map Piece.part ++ ps) o (src ++ want ++ rest)

theorem packageGroups_tiles {cs : List Chunk} {fs : List ChunkFacts} {o : Nat} {ps : List Piece}
    (h : packageGroups cs fs o = .ok ps) : Tiles ps o (cs.flatMap chunkLines) := by
  refine packageGroups_ok_induct (fun _ o => .nil o) ?_ ?_ h
  · intro ls cs fs o rest ih
    simpa [chunkLines] using Tiles.text ih
  · intro src want cs f fs o parts rest hparts ih
    simpa [chunkLines] using Tiles.code (packageChunk_tiles hparts) ih

/-- where a part `q` of a tiling sits: it covers a stretch `ls` of `L` (after `pre`, so at line
    `o + pre.length`), `k` being the indent of ITS chunk, which the tiling does not otherwise expose; the
    third conjunct is all the tiling says about want lines: they are lines of `L` without that indent -/
theorem tiles_covers_of_mem {ps : List Piece} {o : Nat} {L : List Str} (h : Tiles ps o L) {q : PPart}
    (hq : Piece.part q ∈ ps) :
    ∃ k pre ls post, L = pre ++ ls ++ post ∧ Covers k q (o + pre.length) ls ∧
      ∀ l ∈ q.part.wantLines.getD [], ∃ r ∈ L, l = r.drop k := by
  induction h with
  | nil o => simp at hq
  | @text ls ps o rest _ ih =>
    simp only [List.mem_cons, reduceCtorEq, false_or] at hq
    obtain ⟨k, pre, ls', post, rfl, hc, hw⟩ := ih hq
    refine ⟨k, ls ++ pre, ls', post, by simp, ?_, fun l hl => ?_⟩
    · rwa [List.length_append, ← Nat.add_assoc]
    · obtain ⟨r, hr, e⟩ := hw l hl
      exact ⟨r, List.mem_append_right _ hr, e⟩
  | @code parts ps o src want rest hs _ ih =>
    rcases List.mem_append.mp hq with hq | hq
    · obtain ⟨q', hq', he⟩ := List.mem_map.mp hq
      cases he
      obtain ⟨pre, ls, post, rfl, hc, hw⟩ := srcTiles_covers_of_mem hs hq'
      refine ⟨_, pre, ls, post ++ want ++ rest, by simp, hc, fun l hl => ?_⟩
      obtain ⟨r, hr, e⟩ := hw l hl
      exact ⟨r, by simp [hr], e⟩
    · obtain ⟨k, pre, ls', post, rfl, hc, hw⟩ := ih hq
      refine ⟨k, src ++ want ++ pre, ls', post, by simp, ?_, fun l hl => ?_⟩
      · rwa [List.length_append, List.length_append, ← Nat.add_assoc, ← Nat.add_assoc]
      · obtain ⟨r, hr, e⟩ := hw l hl
        exact ⟨r, List.mem_append_right _ hr, e⟩

end Xdoc.Parser
