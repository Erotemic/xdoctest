import XdocModel.World
import XdocModel.Lemmas.Example
/-! The world model (`World.lean`, C11). Under the native discipline a failed pre-import leaves the
namespace alone, so a returning run started from an empty namespace leaves it empty (`runCore_ret_from_empty`). -/
namespace Xdoc
open Py

variable {P : Prog} {sat : Str → Option Bool} {sem : Sem}

theorem runDoc_of_getElem? {w : World} {i : Nat} {d : DocDef} {st : DocState} (hd : P[i]? = some d)
    (hs : w.docs[i]? = some st) (oe : OnError) :
    runDoc P sat sem w i oe =
      ({ w with docs := w.docs.set i (runCore sat (sem i) d oe w.template w.moduleGlobals st.ns).1 },
       (runCore sat (sem i) d oe w.template w.moduleGlobals st.ns).2) := by
  unfold runDoc; rw [hd, hs]

theorem runDoc_absent {w : World} {i : Nat} (h : P[i]? = none ∨ w.docs[i]? = none) (oe : OnError) :
    runDoc P sat sem w i oe = (w, Outcome.absent) := by
  unfold runDoc
  rcases h with h | h
  · rw [h]
  · rw [h]; cases P[i]? <;> rfl

theorem runDoc_template (w : World) (i : Nat) (oe : OnError) :
    (runDoc P sat sem w i oe).1.template = w.template := by
  unfold runDoc; split <;> rfl

theorem runDoc_moduleGlobals (w : World) (i : Nat) (oe : OnError) :
    (runDoc P sat sem w i oe).1.moduleGlobals = w.moduleGlobals := by
  unfold runDoc; split <;> rfl

theorem runDoc_docs_length (w : World) (i : Nat) (oe : OnError) :
    (runDoc P sat sem w i oe).1.docs.length = w.docs.length := by
  unfold runDoc; split <;> simp

theorem runDoc_docs_other (w : World) (i j : Nat) (oe : OnError) (h : j ≠ i) :
    (runDoc P sat sem w i oe).1.docs[j]? = w.docs[j]? := by
  unfold runDoc; split
  · simp [List.getElem?_set_ne (Ne.symm h)]
  · rfl

theorem execHist_inv (Q : World → Prop) (h : History) (w : World)
    (hstep : ∀ s ∈ h, ∀ w, Q w → Q (runDoc P sat sem w s.1 s.2).1) (h0 : Q w) :
    Q (execHist P sat sem w h) := by
  induction h generalizing w with
  | nil => exact h0
  | cons s h ih =>
    exact ih _ (fun t ht => hstep t (List.mem_cons_of_mem _ ht)) (hstep s (by simp) w h0)

theorem execHist_template (w : World) (h : History) :
    (execHist P sat sem w h).template = w.template :=
  execHist_inv (·.template = w.template) h w (fun _ _ w' hw => (runDoc_template w' _ _).trans hw) rfl

theorem execHist_moduleGlobals (w : World) (h : History) :
    (execHist P sat sem w h).moduleGlobals = w.moduleGlobals :=
  execHist_inv (·.moduleGlobals = w.moduleGlobals) h w
    (fun _ _ w' hw => (runDoc_moduleGlobals w' _ _).trans hw) rfl

theorem execHist_docs_length (w : World) (h : History) :
    (execHist P sat sem w h).docs.length = w.docs.length :=
  execHist_inv (·.docs.length = w.docs.length) h w
    (fun _ _ w' hw => (runDoc_docs_length w' _ _).trans hw) rfl

/-- two worlds look the same to doctest `j` -/
def Agree (j : Nat) (w w' : World) : Prop :=
  w.template = w'.template ∧ w.moduleGlobals = w'.moduleGlobals ∧ w.docs[j]? = w'.docs[j]?

theorem runDoc_agree_self {w w' : World} {j : Nat} (h : Agree j w w') (oe : OnError) :
    (runDoc P sat sem w j oe).2 = (runDoc P sat sem w' j oe).2 ∧
    Agree j (runDoc P sat sem w j oe).1 (runDoc P sat sem w' j oe).1 := by
  obtain ⟨ht, hm, hd⟩ := h
  unfold runDoc
  rw [hd, ht, hm]
  split
  · exact ⟨rfl, rfl, rfl, by simp only [List.getElem?_set_self', hd]⟩
  · exact ⟨rfl, ht, hm, hd⟩

theorem runDoc_agree_other (w : World) {i j : Nat} (hij : j ≠ i) (oe : OnError) :
    Agree j (runDoc P sat sem w i oe).1 w :=
  ⟨runDoc_template w i oe, runDoc_moduleGlobals w i oe, runDoc_docs_other w i j oe hij⟩

/-- the induction behind `other_doctests_never_matter`: runs of other doctests keep `Agree j`, runs of
    `j` itself map agreeing worlds to agreeing worlds -/
theorem agree_execHist_filter (j : Nat) (h : History) (w w' : World) (ha : Agree j w w') :
    Agree j (execHist P sat sem w h) (execHist P sat sem w' (h.filter (·.1 == j))) := by
  induction h generalizing w w' with
  | nil => exact ha
  | cons s h ih =>
    obtain ⟨i, oe⟩ := s
    by_cases hij : i = j
    · subst hij
      simp only [List.filter_cons, beq_self_eq_true, if_true, execHist]
      exact ih _ _ (runDoc_agree_self ha oe).2
    · have : ((i, oe).1 == j) = false := by simp [hij]
      simp only [List.filter_cons, this, execHist]
      refine ih _ _ ?_
      have hb := runDoc_agree_other (P := P) (sat := sat) (sem := sem) w (i := i) (j := j) (Ne.symm hij) oe
      exact ⟨hb.1.trans ha.1, hb.2.1.trans ha.2.1, hb.2.2.trans ha.2.2⟩

section ImportFailure
variable {sem1 : NS → Nat → RunPart → ExecResult × NS} {cfg : RunCfg}

/-- the failures recorded after the part ran are not import failures, and the
    pre-import is attempted only while `didImport` is still false -/
theorem stepPart_stop_import {s s' : RunState NS} {i : Nat} {p : RunPart} {e : RunEnd}
    (h : stepPart sat sem1 cfg s i p = .stop s' e) (hs : s.failure = none)
    (hfl : isImportFailure s'.failure = true) : s'.didImport = false := by
  have sp := stepPart_spec sat sem1 cfg s i p
  rw [h] at sp
  cases sp with
  | exit rs unm => rw [show (ranState sem1 s i p rs unm).failure = s.failure from rfl, hs] at hfl; cases hfl
  | escape rs unm _ => rw [show (ranState sem1 s i p rs unm).failure = s.failure from rfl, hs] at hfl; cases hfl
  | failRan rs unm k tb hk => exact absurd (beq_iff_eq.mp hfl) hk
  | failEarly rs di k tb hdi => exact hdi (beq_iff_eq.mp hfl)

theorem runLoop_importFailure_not_didImport (ps : List RunPart) (s : RunState NS) (i : Nat)
    (hs : s.failure = none)
    (hfl : isImportFailure (runLoop sat sem1 cfg s i ps).1.failure = true) :
    (runLoop sat sem1 cfg s i ps).1.didImport = false := by
  rcases runLoop_cases sat sem1 cfg (I := fun s _ => s.failure = none)
    (fun _ _ _ _ h hc => (stepPart_continue hc).failure ▸ h) ps s i hs with ⟨_, h'⟩ | ⟨s0, _, _, _, h0, _, _, hstep, _⟩
  · rw [h'] at hfl; cases hfl
  · exact stepPart_stop_import hstep h0 hfl

end ImportFailure

theorem endingOf_eq_runEnding (cfg : RunCfg) (n : Nat) (s : RunState NS) (e : Option RunEnd) :
    endingOf cfg.pytestMode n s e = runEnding cfg n s e := by
  cases e <;> rfl

/-- `hframe` is the CPython fact also used by C09: an exception raised by doctest code carries a
    doctest frame -/
theorem runCore_ret_from_empty (sem1 : NS → Nat → RunPart → ExecResult × NS) (d : DocDef) (t : Template)
    (mg : NS) (hnat : d.pytestMode = false)
    (hframe : ∀ env i p o l, (sem1 env i p).1 ≠ .raised o l none) :
    (runCore sat sem1 d .ret t mg []).1.ns = [] ∧ (runCore sat sem1 d .ret t mg []).2.ending = .returned := by
  have r := runLoop_result sat sem1 (cfgOf d .ret) d.parts (startState d t mg []) 0
    (loopInv_init _ _)
  have himp := runLoop_importFailure_not_didImport (sat := sat) (sem1 := sem1) (cfg := cfgOf d .ret)
    d.parts (startState d t mg []) 0 rfl
  rw [Nat.zero_add] at r
  have hend : endingOf d.pytestMode d.parts.length
      (runLoop sat sem1 (cfgOf d .ret) (startState d t mg []) 0 d.parts).1
      (runLoop sat sem1 (cfgOf d .ret) (startState d t mg []) 0 d.parts).2 = .returned :=
    (endingOf_eq_runEnding (cfgOf d .ret) _ _ _).trans (r.runEnding_returned rfl hnat hframe)
  refine ⟨?_, ?_⟩
  · simp only [runCore, nsAfter, hend]
    split
    · rename_i hi
      rw [himp hi]; rfl
    · rfl
  · simp only [runCore, hend]

/-- the mini oracle never raises without a doctest frame: a statement goes on to the rest, raises with
    its own line number, or exits -/
theorem execStmts_frames (ev : EvalResult) (stmts : List Stmt) (ns : NS) (out : Str) (m : Bool) (ln : Nat)
    (o l : Str) : (execStmts ev ns out m ln stmts).1 ≠ .raised o l none := by
  induction stmts generalizing ns out m ln with
  | nil => intro h; cases h
  | cons st rest ih =>
    cases st with
    | nop | bind | probe | say | mute => exact ih _ _ _ _
    | «show» n | inc n =>
      simp only [execStmts]
      split
      · exact ih _ _ _ _
      · intro h; cases h
    | fail | exit => intro h; cases h

end Xdoc
