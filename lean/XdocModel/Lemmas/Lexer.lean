import XdocModel.Lexer
import XdocModel.Lemmas.Str
/-!
# Lemmas about the mini-lexer (`XdocModel/Lexer.lean`)

The scanner is read through `scanStep`: the token that starts at a position, with what is done per
kind of token as parameters. `scanStep_rel` (it is parametric in them, and the scan goes on at
suffixes only) is the one walk through its cases; the fuel, `;`-flag and comment lemmas are instances.
`scanS` is the scanner without fuel. The loop over the lines is read one line at a time
(`lexGo_code`).
-/
namespace Xdoc.Lexer
open Xdoc Py

theorem closeSingle_cons (q c : Char) (s : Str) : closeSingle q (c :: s) =
    if c == q then some s
    else if c == '\\' then
      match s with
      | [] => none
      | _ :: s' => closeSingle q s'
    else closeSingle q s := by
  rw [closeSingle.eq_def]; rfl

theorem closeTriple_cons (q c : Char) (s : Str) : closeTriple q (c :: s) =
    if c == '\\' then
      match s with
      | [] => none
      | _ :: s' => closeTriple q s'
    else if c == q then
      match s with
      | d :: e :: s' => if d == q && e == q then some s' else closeTriple q s
      | _ => closeTriple q s
    else closeTriple q s := by
  rw [closeTriple.eq_def]; rfl

theorem closeSingle_spec (q : Char) (s : Str) {r : Str} (h : closeSingle q s = some r) :
    ∃ b, s = b ++ q :: r := by
  fun_induction closeSingle q s with
  | case1 => cases h
  | case2 c s hc => cases h; exact ⟨[], by simp [eq_of_beq hc]⟩
  | case3 c hq hb => cases h
  | case4 c hq hb x s' ih => obtain ⟨b, rfl⟩ := ih h; exact ⟨c :: x :: b, rfl⟩
  | case5 c s hq hb ih => obtain ⟨b, rfl⟩ := ih h; exact ⟨c :: b, rfl⟩

theorem closeTriple_spec (q : Char) (s : Str) {r : Str} (h : closeTriple q s = some r) :
    ∃ b, s = b ++ q :: q :: q :: r := by
  fun_induction closeTriple q s with
  | case1 => cases h
  | case2 c hb => cases h
  | case3 c hb x s' ih => obtain ⟨b, rfl⟩ := ih h; exact ⟨c :: x :: b, rfl⟩
  | case4 c hb hq d e s' hde =>
    cases h
    simp only [Bool.and_eq_true, beq_iff_eq] at hde
    exact ⟨[], by simp [eq_of_beq hq, hde.1, hde.2]⟩
  | case5 c hb hq d e s' hde ih => obtain ⟨b, hb⟩ := ih h; exact ⟨c :: b, by rw [hb]; rfl⟩
  | case6 c s hb hq hs ih => obtain ⟨b, rfl⟩ := ih h; exact ⟨c :: b, rfl⟩
  | case7 c s hb hq ih => obtain ⟨b, rfl⟩ := ih h; exact ⟨c :: b, rfl⟩

theorem closeSingle_isSuffix (q : Char) (s : Str) {r : Str} (h : closeSingle q s = some r) :
    r <:+ s := by
  obtain ⟨b, rfl⟩ := closeSingle_spec q s h
  exact ⟨b ++ [q], by simp⟩

theorem closeTriple_isSuffix (q : Char) (s : Str) {r : Str} (h : closeTriple q s = some r) :
    r <:+ s := by
  obtain ⟨b, rfl⟩ := closeTriple_spec q s h
  exact ⟨b ++ [q, q, q], by simp⟩

theorem closeTriple_length (q : Char) (s : Str) {r : Str} (h : closeTriple q s = some r) :
    r.length < s.length := by
  obtain ⟨b, rfl⟩ := closeTriple_spec q s h
  simp; omega

theorem closeTriple_none_of_not_mem (q : Char) (s : Str) (h : q ∉ s) : closeTriple q s = none := by
  cases hc : closeTriple q s with
  | none => rfl
  | some r =>
    obtain ⟨b, rfl⟩ := closeTriple_spec q s hc
    simp at h

def bump (p : Int) (c : Char) : Int :=
  if c == '(' || c == '[' || c == '{' then p + 1
  else if c == ')' || c == ']' || c == '}' then p - 1
  else p

/-- the token that starts at `c :: s`, with what the scanner does in each case as a parameter:
    `cm` on a comment, `op` on a triple-quoted string left open, `sk r` when a string literal is
    skipped and the scan goes on at `r` (a lone unterminated quote: at `s`), `cd` on a code
    character -/
def scanStep {α : Type} (c : Char) (s : Str) (cm op : α) (sk : Str → α) (cd : α) : α :=
  if c == '#' then cm
  else if c == '\'' || c == '"' then
    match s with
    | d :: e :: s' =>
      if d == c && e == c then
        (match closeTriple c s' with
         | some r => sk r
         | none => op)
      else
        (match closeSingle c s with
         | some r => sk r
         | none => sk s)
    | _ =>
      (match closeSingle c s with
       | some r => sk r
       | none => sk s)
  else cd

theorem scanCode_succ_cons (n : Nat) (p : Int) (semi : Bool) (c : Char) (s : Str) :
    scanCode (n + 1) p semi (c :: s) =
      scanStep c s { paren := p, semicolon := semi, comment := some (c :: s) }
        { paren := p, semicolon := semi, openStr := some c } (scanCode n p semi)
        (scanCode n (bump p c) (semi || c == ';') s) := by
  have hcd : (if c == '(' || c == '[' || c == '{' then scanCode n (p + 1) semi s
      else if c == ')' || c == ']' || c == '}' then scanCode n (p - 1) semi s
      else if c == ';' then scanCode n p true s
      else scanCode n p semi s) = scanCode n (bump p c) (semi || c == ';') s := by
    unfold bump
    by_cases hsc : c = ';'
    · subst hsc; simp
    · have hsc' : (c == ';') = false := by simpa using hsc
      simp only [hsc', Bool.or_false, Bool.false_eq_true, ↓reduceIte]
      split
      · rfl
      · split <;> rfl
  simp only [scanCode, scanStep, hcd]
  rfl

theorem scanStep_rel {α β : Type} (R : α → β → Prop) (c : Char) (s : Str) {cm op cd : α}
    {cm' op' cd' : β} {sk : Str → α} {sk' : Str → β} (hcm : c = '#' → R cm cm') (hop : R op op')
    (hsk : ∀ r, r <:+ s → R (sk r) (sk' r)) (hcd : R cd cd') :
    R (scanStep c s cm op sk cd) (scanStep c s cm' op' sk' cd') := by
  -- a quote that does not open a triple-quoted string: this leaf occurs twice in the definition
  have single : R (match closeSingle c s with | some r => sk r | none => sk s)
      (match closeSingle c s with | some r => sk' r | none => sk' s) := by
    cases hr : closeSingle c s with
    | some r => exact hsk _ (closeSingle_isSuffix _ _ hr)
    | none => exact hsk _ (List.suffix_refl _)
  unfold scanStep
  by_cases h1 : (c == '#') = true
  · rw [if_pos h1, if_pos h1]; exact hcm (eq_of_beq h1)
  · rw [if_neg h1, if_neg h1]
    by_cases h2 : (c == '\'' || c == '"') = true
    · rw [if_pos h2, if_pos h2]
      rcases s with _ | ⟨d, _ | ⟨e, s'⟩⟩
      · exact single
      · exact single
      · dsimp only
        by_cases h3 : (d == c && e == c) = true
        · rw [if_pos h3, if_pos h3]
          cases hr : closeTriple c s' with
          | none => exact hop
          | some r =>
            exact hsk _ ((closeTriple_isSuffix _ _ hr).trans
              ((List.suffix_cons _ _).trans (List.suffix_cons _ _)))
        · rw [if_neg h3, if_neg h3]; exact single
    · rw [if_neg h2, if_neg h2]; exact hcd

theorem scanCode_fuel (n m : Nat) (p : Int) (semi : Bool) (s : Str)
    (hn : s.length ≤ n) (hm : s.length ≤ m) : scanCode n p semi s = scanCode m p semi s := by
  induction n generalizing m p semi s with
  | zero =>
    have : s = [] := List.eq_nil_of_length_eq_zero (by omega)
    subst this
    cases m <;> simp [scanCode]
  | succ n ih =>
    cases s with
    | nil => cases m <;> simp [scanCode]
    | cons c s =>
      cases m with
      | zero => simp at hm
      | succ m =>
        simp only [List.length_cons] at hn hm
        rw [scanCode_succ_cons, scanCode_succ_cons]
        exact scanStep_rel Eq c s (fun _ => rfl) rfl
          (fun r hr => ih m p semi r (by have := hr.length_le; omega) (by have := hr.length_le; omega))
          (ih m _ _ s (by omega) (by omega))

theorem scanCode_fuel_irrelevant (fuel : Nat) (p : Int) (semi : Bool) (s : Str)
    (h : s.length ≤ fuel) : scanCode fuel p semi s = scanCode s.length p semi s :=
  scanCode_fuel fuel s.length p semi s h (Nat.le_refl _)

def scanS (p : Int) (semi : Bool) (s : Str) : LineScan := scanCode s.length p semi s

theorem scan_eq_scanS (p : Int) (s : Str) : scan p s = scanS p false s := rfl

theorem scanS_nil (p : Int) (semi : Bool) : scanS p semi [] = { paren := p, semicolon := semi } := by
  simp [scanS, scanCode]

theorem scanS_cons (p : Int) (semi : Bool) (c : Char) (s : Str) :
    scanS p semi (c :: s) =
      scanStep c s { paren := p, semicolon := semi, comment := some (c :: s) }
        { paren := p, semicolon := semi, openStr := some c } (scanS p semi)
        (scanS (bump p c) (semi || c == ';') s) := by
  unfold scanS
  rw [List.length_cons, scanCode_succ_cons]
  exact scanStep_rel Eq c s (fun _ => rfl) rfl
    (fun r hr => scanCode_fuel _ _ _ _ _ hr.length_le (Nat.le_refl _)) rfl

theorem scanS_hash (p : Int) (semi : Bool) (s : Str) :
    scanS p semi ('#' :: s) = { paren := p, semicolon := semi, comment := some ('#' :: s) } := by
  rw [scanS_cons]; simp [scanStep]

def withSemi (semi : Bool) (r : LineScan) : LineScan := { r with semicolon := semi || r.semicolon }

theorem scanCode_semi (n : Nat) (p : Int) (semi : Bool) (s : Str) :
    scanCode n p semi s = withSemi semi (scanCode n p false s) := by
  induction n generalizing p semi s with
  | zero => simp [scanCode, withSemi]
  | succ n ih =>
    cases s with
    | nil => simp [scanCode, withSemi]
    | cons c s =>
      rw [scanCode_succ_cons, scanCode_succ_cons]
      refine scanStep_rel (fun a b => a = withSemi semi b) c s ?_ ?_ (fun r _ => ih p semi r) ?_
      · intro _; simp [withSemi]
      · simp [withSemi]
      · rw [ih, ih _ (false || _)]; simp [withSemi, Bool.or_assoc]

theorem scanS_semi (p : Int) (semi : Bool) (s : Str) :
    scanS p semi s = withSemi semi (scanS p false s) := scanCode_semi _ _ _ _

theorem scanCode_comment (n : Nat) (p : Int) (semi : Bool) (s c : Str)
    (hc : (scanCode n p semi s).comment = some c) : c <:+ s ∧ c.head? = some '#' := by
  induction n generalizing p semi s with
  | zero => simp [scanCode] at hc
  | succ n ih =>
    cases s with
    | nil => simp [scanCode] at hc
    | cons ch s =>
      rw [scanCode_succ_cons] at hc
      revert hc
      -- a predicate on one scan, as a relation to a scan into `Unit` that ignores its second argument
      refine scanStep_rel (β := Unit)
        (fun (a : LineScan) _ => a.comment = some c → c <:+ ch :: s ∧ c.head? = some '#')
        ch s (cm' := ()) (op' := ()) (sk' := fun _ => ()) (cd' := ()) ?_ ?_ ?_ ?_
      · rintro rfl h; cases h; exact ⟨List.suffix_refl _, rfl⟩
      · intro h; cases h
      · intro r hr h
        exact ⟨((ih _ _ _ h).1.trans hr).trans (List.suffix_cons _ _), (ih _ _ _ h).2⟩
      · intro h
        exact ⟨(ih _ _ _ h).1.trans (List.suffix_cons _ _), (ih _ _ _ h).2⟩

def PlainChar (c : Char) : Prop := c ≠ '\'' ∧ c ≠ '"' ∧ c ≠ '#'

instance (c : Char) : Decidable (PlainChar c) := by unfold PlainChar; infer_instance

/-- every position is a token boundary -/
def Plain (s : Str) : Prop := ∀ c ∈ s, PlainChar c

instance (s : Str) : Decidable (Plain s) := by unfold Plain; infer_instance

theorem Plain.nil : Plain [] := by simp [Plain]

theorem plain_cons {c : Char} {s : Str} : Plain (c :: s) ↔ PlainChar c ∧ Plain s := by
  simp [Plain]

theorem plain_append {a b : Str} : Plain (a ++ b) ↔ Plain a ∧ Plain b := by
  simp only [Plain, List.mem_append, or_imp, forall_and]

theorem scanStep_plain {α : Type} {c : Char} (hc : PlainChar c) (s : Str) (cm op : α)
    (sk : Str → α) (cd : α) : scanStep c s cm op sk cd = cd := by
  simp [scanStep, hc.1, hc.2.1, hc.2.2]

theorem scanS_plain_cons (p : Int) (semi : Bool) (c : Char) (s : Str) (hc : PlainChar c) :
    scanS p semi (c :: s) = scanS (bump p c) (semi || c == ';') s := by
  rw [scanS_cons, scanStep_plain hc]

def depthAfter (p : Int) (s : Str) : Int := s.foldl bump p

theorem scanS_plain_append (p : Int) (semi : Bool) (pre rest : Str) (hpre : Plain pre) :
    scanS p semi (pre ++ rest) = scanS (depthAfter p pre) (semi || pre.contains ';') rest := by
  induction pre generalizing p semi with
  | nil => simp [depthAfter]
  | cons c s ih =>
    obtain ⟨hc, hs⟩ := plain_cons.mp hpre
    rw [List.cons_append, scanS_plain_cons _ _ _ _ hc, ih _ _ hs]
    simp only [depthAfter, List.foldl_cons, List.contains_cons, Bool.or_assoc, BEq.comm (a := c)]

theorem scanS_plain (p : Int) (semi : Bool) (s : Str) (hs : Plain s) :
    scanS p semi s = { paren := depthAfter p s, semicolon := semi || s.contains ';' } := by
  rw [← s.append_nil, scanS_plain_append _ _ _ _ hs, scanS_nil, s.append_nil]

theorem scan_plain_append (p : Int) (pre rest : Str) (hpre : Plain pre) :
    scan p (pre ++ rest) = withSemi (scan p pre).semicolon (scan (scan p pre).paren rest) := by
  simp only [scan_eq_scanS]
  rw [scanS_plain_append _ _ _ _ hpre, scanS_plain _ _ _ hpre]
  simp only [Bool.false_or]
  exact scanS_semi _ _ _

def IsQuote (q : Char) : Prop := q = '\'' ∨ q = '"'

instance (q : Char) : Decidable (IsQuote q) := by unfold IsQuote; infer_instance

theorem IsQuote.ne_backslash {q : Char} (h : IsQuote q) : q ≠ '\\' := by
  rcases h with rfl | rfl <;> decide

theorem IsQuote.ne_hash {q : Char} (h : IsQuote q) : q ≠ '#' := by
  rcases h with rfl | rfl <;> decide

theorem IsQuote.beq {q : Char} (h : IsQuote q) : (q == '\'' || q == '"') = true := by
  rcases h with rfl | rfl <;> decide

theorem IsQuote.not_space {q : Char} (h : IsQuote q) : isSpace q = false := by
  rcases h with rfl | rfl
  · exact isSpace_squote
  · exact isSpace_dquote

theorem Plain.head?_ne_quote {s : Str} (hs : Plain s) {q : Char} (hq : IsQuote q) :
    s.head? ≠ some q := by
  intro h
  have hp := hs q (List.mem_of_mem_head? h)
  rcases hq with rfl | rfl
  · exact hp.1 rfl
  · exact hp.2.1 rfl

/-- body of a single-quoted literal: no unescaped `q` (a backslash escapes any next character) -/
inductive SingleBody (q : Char) : Str → Prop
  | nil : SingleBody q []
  | char (c : Char) (b : Str) : c ≠ q → c ≠ '\\' → SingleBody q b → SingleBody q (c :: b)
  | esc (x : Char) (b : Str) : SingleBody q b → SingleBody q ('\\' :: x :: b)

theorem closeSingle_body {q : Char} (hq : q ≠ '\\') {body : Str} (hb : SingleBody q body) (post : Str) :
    closeSingle q (body ++ q :: post) = some post := by
  induction hb with
  | nil => simp [closeSingle_cons]
  | char c b hc hbs _ ih =>
    have h1 : (c == q) = false := by simpa using hc
    have h2 : (c == '\\') = false := by simpa using hbs
    simp [closeSingle_cons, h1, h2, ih]
  | esc x b _ ih =>
    have h1 : ('\\' == q) = false := by simpa using (Ne.symm hq)
    simp [closeSingle_cons, h1, ih]

theorem SingleBody.head_ne {q : Char} (hq : q ≠ '\\') {body : Str} (hb : SingleBody q body) :
    body.head? ≠ some q := by
  cases hb with
  | nil => simp
  | char c b hc _ _ => simpa using hc
  | esc x b _ => simpa using (Ne.symm hq)

/-- body of a triple-quoted literal: no unescaped `q`, except one or two `q` followed by
    another character -/
inductive TripleBody (q : Char) : Str → Prop
  | nil : TripleBody q []
  | char (c : Char) (b : Str) : c ≠ q → c ≠ '\\' → TripleBody q b → TripleBody q (c :: b)
  | esc (x : Char) (b : Str) : TripleBody q b → TripleBody q ('\\' :: x :: b)
  | one (c : Char) (b : Str) : c ≠ q → TripleBody q (c :: b) → TripleBody q (q :: c :: b)
  | two (c : Char) (b : Str) : c ≠ q → TripleBody q (c :: b) → TripleBody q (q :: q :: c :: b)

theorem closeTriple_quote {q : Char} (hq : q ≠ '\\') {s : Str} (h : ∀ t, s ≠ q :: q :: t) :
    closeTriple q (q :: s) = closeTriple q s := by
  have hq' : (q == '\\') = false := by simpa using hq
  rw [closeTriple_cons]
  simp only [hq', Bool.false_eq_true, ↓reduceIte, beq_self_eq_true]
  split
  · rename_i d e s'
    split
    · rename_i hde
      simp only [Bool.and_eq_true, beq_iff_eq] at hde
      exact absurd (by rw [hde.1, hde.2]) (h s')
    · rfl
  · rfl

theorem closeTriple_body {q : Char} (hq : q ≠ '\\') {body : Str} (hb : TripleBody q body) (post : Str) :
    closeTriple q (body ++ q :: q :: q :: post) = some post := by
  have hq' : (q == '\\') = false := by simpa using hq
  induction hb with
  | nil => simp [closeTriple_cons, hq']
  | char c b hc hbs _ ih =>
    have h1 : (c == q) = false := by simpa using hc
    have h2 : (c == '\\') = false := by simpa using hbs
    rw [List.cons_append, closeTriple_cons]
    simp only [h2, h1, Bool.false_eq_true, ↓reduceIte]
    exact ih
  | esc x b _ ih => simp [closeTriple_cons, ih]
  | one c b hc _ ih =>
    rw [List.cons_append, closeTriple_quote hq (by simp [hc])]
    exact ih
  | two c b hc _ ih =>
    rw [List.cons_append, closeTriple_quote hq (by simp [hc]), List.cons_append,
      closeTriple_quote hq (by simp [hc])]
    exact ih

theorem scanStep_single {α : Type} {q : Char} (hq : IsQuote q) {s : Str}
    (hnt : ∀ t, s ≠ q :: q :: t) (cm op : α) (sk : Str → α) (cd : α) :
    scanStep q s cm op sk cd = sk ((closeSingle q s).getD s) := by
  have h1 : (q == '#') = false := by simpa using hq.ne_hash
  simp only [scanStep, h1, hq.beq, Bool.false_eq_true, ↓reduceIte]
  split
  · rename_i d e s'
    split
    · rename_i hde
      simp only [Bool.and_eq_true, beq_iff_eq] at hde
      exact absurd (by rw [hde.1, hde.2]) (hnt s')
    · split <;> simp [*]
  · split <;> simp [*]

theorem scanStep_triple {α : Type} {q : Char} (hq : IsQuote q) (s : Str) (cm op : α)
    (sk : Str → α) (cd : α) :
    scanStep q (q :: q :: s) cm op sk cd = ((closeTriple q s).map sk).getD op := by
  have h1 : (q == '#') = false := by simpa using hq.ne_hash
  simp only [scanStep, h1, hq.beq, Bool.false_eq_true, ↓reduceIte, beq_self_eq_true, Bool.and_self]
  split <;> simp [*]

theorem scanS_single (p : Int) (semi : Bool) {q : Char} (hq : IsQuote q) {s r : Str}
    (hc : closeSingle q s = some r) (hnt : ∀ t, s ≠ q :: q :: t) :
    scanS p semi (q :: s) = scanS p semi r := by
  rw [scanS_cons, scanStep_single hq hnt, hc]; rfl

/-- an unterminated single quote is a lone error token: the text after it is scanned as code -/
theorem scanS_single_unterminated (p : Int) (semi : Bool) {q : Char} (hq : IsQuote q) {s : Str}
    (hc : closeSingle q s = none) (hnt : ∀ t, s ≠ q :: q :: t) :
    scanS p semi (q :: s) = scanS p semi s := by
  rw [scanS_cons, scanStep_single hq hnt, hc]; rfl

theorem scanS_triple (p : Int) (semi : Bool) {q : Char} (hq : IsQuote q) {s r : Str}
    (hc : closeTriple q s = some r) : scanS p semi (q :: q :: q :: s) = scanS p semi r := by
  rw [scanS_cons, scanStep_triple hq, hc]; rfl

theorem scanS_triple_open (p : Int) (semi : Bool) {q : Char} (hq : IsQuote q) {s : Str}
    (hc : closeTriple q s = none) :
    scanS p semi (q :: q :: q :: s) = { paren := p, semicolon := semi, openStr := some q } := by
  rw [scanS_cons, scanStep_triple hq, hc]; rfl

theorem scanS_plain_comment (p : Int) (semi : Bool) (s : Str) (hs : Plain s) :
    (scanS p semi s).comment = none ∧ (scanS p semi s).openStr = none := by
  rw [scanS_plain _ _ _ hs]; exact ⟨rfl, rfl⟩

/-- the characters `measureIndent` consumes -/
def IndentChar (c : Char) : Prop := c = ' ' ∨ c = '\t' ∨ c.toNat = 0x0C

theorem IndentChar.eq_cases {c : Char} (hc : IndentChar c) : c = ' ' ∨ c = '\t' ∨ c = '\x0c' :=
  hc.imp_right (Or.imp_right fun h => Char.toNat_inj.mp h)

theorem scanS_indentChar {c : Char} (hc : IndentChar c) (p : Int) (semi : Bool) (s : Str) :
    scanS p semi (c :: s) = scanS p semi s := by
  have hp : PlainChar c ∧ bump p c = p ∧ (c == ';') = false := by
    rcases hc.eq_cases with rfl | rfl | rfl <;> exact ⟨by decide, by simp [bump], by decide⟩
  rw [scanS_plain_cons _ _ _ _ hp.1, hp.2.1, hp.2.2, Bool.or_false]

theorem measureIndent_cons_of_not_indent {c : Char} (hc : ¬ IndentChar c) (col : Nat) (s : Str) :
    measureIndent col (c :: s) = (col, c :: s) := by
  simp only [IndentChar, not_or] at hc
  simp [measureIndent, hc.1, hc.2.1, hc.2.2]

theorem measureIndent_cons_of_indent {c : Char} (hc : IndentChar c) (col : Nat) :
    ∃ col', ∀ s, measureIndent col (c :: s) = measureIndent col' s := by
  rcases hc.eq_cases with rfl | rfl | rfl
  · exact ⟨col + 1, fun s => by simp [measureIndent]⟩
  · exact ⟨(col / 8 + 1) * 8, fun s => by simp [measureIndent]⟩
  · exact ⟨0, fun s => by simp [measureIndent]⟩

theorem measureIndent_length (col : Nat) (l : Str) : (measureIndent col l).2.length ≤ l.length := by
  induction l generalizing col with
  | nil => simp [measureIndent]
  | cons c s ih =>
    by_cases hc : IndentChar c
    · obtain ⟨col', h⟩ := measureIndent_cons_of_indent hc col
      rw [h]; exact Nat.le_succ_of_le (ih col')
    · rw [measureIndent_cons_of_not_indent hc]; exact Nat.le_refl _

theorem scanS_measureIndent (p : Int) (semi : Bool) (col : Nat) (l : Str) :
    scanS p semi l = scanS p semi (measureIndent col l).2 := by
  induction l generalizing col with
  | nil => rfl
  | cons c s ih =>
    by_cases hc : IndentChar c
    · obtain ⟨col', h⟩ := measureIndent_cons_of_indent hc col
      rw [h, scanS_indentChar hc]; exact ih col'
    · rw [measureIndent_cons_of_not_indent hc]

def lexEndOf (r : LineScan) : LexEnd :=
  if r.openStr.isSome then .eofString else if r.paren == 0 then .ok else .eofStatement

theorem lexEndOf_ne_badDedent (r : LineScan) : lexEndOf r ≠ .badDedent := by
  unfold lexEndOf
  split
  · simp
  · split <;> simp

theorem lexEndOf_beq_ok (r : LineScan) : (lexEndOf r == .ok) = (r.openStr.isNone && r.paren == 0) := by
  unfold lexEndOf
  cases r.openStr with
  | some _ => rfl
  | none => cases r.paren == 0 <;> rfl

theorem lexGo_nil (st : LexState) :
    lexGo st [] = (st, lexEndOf ⟨st.paren, st.openStr, none, false⟩) := by
  rw [lexGo, lexEndOf]
  split
  · simp [*]
  · split <;> simp [*]

/-- what `extractComments` reads off the end of the loop -/
theorem lexGo_nil_comments (st : LexState) :
    (lexGo st []).1 = st ∧ (lexGo st []).2 ≠ .badDedent := by
  rw [lexGo_nil]
  exact ⟨rfl, lexEndOf_ne_badDedent _⟩

/-- the indentation stack after a line that starts a token at column `col` (`none`: the column is
    on no outer level); inside brackets indentation is not looked at -/
def nextIndents (st : LexState) (col : Nat) : Option (List Nat) :=
  if st.paren == 0 then
    if col > st.indents.headD 0 then some (col :: st.indents) else dedentTo col st.indents
  else some st.indents

theorem nextIndents_init (col : Nat) : ∃ ind, nextIndents {} col = some ind := by
  unfold nextIndents
  cases col <;> simp [dedentTo]

/-- one scan of the WHOLE line: the scanner does not see the indentation -/
theorem lexGo_code (st : LexState) (hopen : st.openStr = none) (l : Str) (ls : List Str)
    {c : Char} {r : Str} (hmi : (measureIndent 0 l).2 = c :: r) (hc : c ≠ '#') :
    lexGo st (l :: ls) =
      match nextIndents st (measureIndent 0 l).1 with
      | none => (st, .badDedent)
      | some ind => lexGo (applyScan { st with indents := ind } (scan st.paren l)) ls := by
  have hc' : (c == '#') = false := by simpa using hc
  rw [lexGo, nextIndents]
  simp only [hopen]
  split
  · rename_i hp
    rw [eq_of_beq hp, scan_eq_scanS 0 l, scanS_measureIndent 0 false 0 l, ← scan_eq_scanS, hmi]
    simp only [hc', Bool.false_eq_true, ↓reduceIte]
    by_cases hcol : (measureIndent 0 l).1 > st.indents.headD 0
    · simp only [hcol, ↓reduceIte]
    · simp only [hcol, ↓reduceIte]
      cases dedentTo (measureIndent 0 l).1 st.indents <;> rfl
  · rfl

theorem lexGo_first (l : Str) (ls : List Str) (c : Char) (r : Str)
    (hmi : (measureIndent 0 l).2 = c :: r) (hc : c ≠ '#') :
    ∃ ind, lexGo {} (l :: ls) = lexGo (applyScan { indents := ind } (scan 0 l)) ls := by
  obtain ⟨ind, hind⟩ := nextIndents_init (measureIndent 0 l).1
  exact ⟨ind, by rw [lexGo_code {} rfl l ls hmi hc, hind]⟩

theorem lex_single (l : Str) :
    (lex [l]).2 = lexEndOf (scan 0 l) ∧ (lex [l]).1.comments = (scan 0 l).comment.toList ∧
      (lex [l]).1.semicolon = (scan 0 l).semicolon := by
  cases l with
  | nil => simp [lex, lexGo_nil, scan, scanCode, lexEndOf]
  | cons c0 t =>
    have hf : [c0 :: t].filter (!·.isEmpty) = [c0 :: t] := by simp
    rw [lex, hf]
    generalize c0 :: t = l
    have hscan : scan 0 l = scan 0 (measureIndent 0 l).2 := scanS_measureIndent 0 false 0 l
    rcases hmi : (measureIndent 0 l).2 with _ | ⟨c, r⟩
    · rw [hscan, hmi, lexGo]
      simp [hmi, scan, scanCode, lexEndOf]
    · by_cases hc : c = '#'
      · subst hc
        rw [hscan, hmi, scan_eq_scanS, scanS_hash, lexGo]
        simp [hmi, lexGo_nil, lexEndOf]
      · obtain ⟨ind, h⟩ := lexGo_first l [] c r hmi hc
        rw [h, lexGo_nil]
        rcases scan 0 l with ⟨pa, os, _ | co, se⟩ <;> simp [applyScan, lexEndOf]

theorem extractComments_eq (lines : List Str) :
    extractComments lines =
      if (lex lines).2 = .badDedent then none else some (lex lines).1.comments := by
  unfold extractComments
  split <;> simp_all

theorem extractComments_single_line (l : Str) :
    extractComments [l] = some (scan 0 l).comment.toList := by
  rw [extractComments_eq, (lex_single l).1, (lex_single l).2.1, if_neg (lexEndOf_ne_badDedent _)]

theorem isBalanced_single_line (l : Str) :
    isBalanced [l] = ((scan 0 l).openStr.isNone && (scan 0 l).paren == 0) := by
  rw [isBalanced, (lex_single l).1, lexEndOf_beq_ok]

theorem lexGo_open_skip (st : LexState) (q : Char) (hst : st.openStr = some q) (mids rest : List Str)
    (hm : ∀ m ∈ mids, closeTriple q m = none) : lexGo st (mids ++ rest) = lexGo st rest := by
  induction mids with
  | nil => rfl
  | cons m ms ih =>
    rw [List.cons_append, lexGo]
    simp only [hst, hm m (by simp)]
    exact ih (fun m' hm' => hm m' (by simp [hm']))

theorem lexGo_open_close (st : LexState) (q : Char) (hst : st.openStr = some q) (l r : Str)
    (ls : List Str) (hc : closeTriple q l = some r) :
    lexGo st (l :: ls) = lexGo (applyScan { st with openStr := none } (scan st.paren r)) ls := by
  rw [lexGo]
  simp only [hst, hc]

theorem IsQuote.not_indent {q : Char} (h : IsQuote q) : ¬ IndentChar q := by
  rcases h with rfl | rfl <;> (unfold IndentChar; decide)

theorem measureIndent_plain_split (col : Nat) (pre : Str) (x : Char) (hpre : Plain pre)
    (hx : ¬ IndentChar x) :
    ∃ col' pre', Plain pre' ∧ ∀ X, measureIndent col (pre ++ x :: X) = (col', pre' ++ x :: X) := by
  induction pre generalizing col with
  | nil => exact ⟨col, [], Plain.nil, measureIndent_cons_of_not_indent hx col⟩
  | cons c s ih =>
    by_cases hc : IndentChar c
    · obtain ⟨col1, h1⟩ := measureIndent_cons_of_indent hc col
      obtain ⟨col', pre', hp, h⟩ := ih col1 (plain_cons.mp hpre).2
      exact ⟨col', pre', hp, fun X => by rw [List.cons_append, h1, h]⟩
    · exact ⟨col, c :: s, hpre, fun X => measureIndent_cons_of_not_indent hc col _⟩

theorem measureIndent_plain_prefix (col : Nat) (pre : Str) (x : Char) (t : Str) (hpre : Plain pre)
    (hx : ¬ IndentChar x) (hx' : x ≠ '#') :
    ∃ c r, (measureIndent col (pre ++ x :: t)).2 = c :: r ∧ c ≠ '#' := by
  obtain ⟨col', pre', hp, h⟩ := measureIndent_plain_split col pre x hpre hx
  rw [h]
  cases pre' with
  | nil => exact ⟨x, t, rfl, hx'⟩
  | cons c s => exact ⟨c, _, rfl, (plain_cons.mp hp).1.2.2⟩

/-- a line `pre 'literal…` (plain `pre`) is not a comment-only line -/
theorem strip_not_hash (pre : Str) (x : Char) (t : Str) (hpre : Plain pre)
    (hx : isSpace x = false) (hx' : x ≠ '#') :
    startsWith ['#'] (strip (pre ++ x :: t)) = false := by
  -- the first non-blank character is a plain one of `pre`, or `x`
  have h : ∀ c, (strip (pre ++ x :: t)).head? = some c → c ≠ '#' := by
    intro c hc
    rw [strip_head?, List.find?_append, List.find?_cons, hx] at hc
    cases hf : pre.find? (fun c => !isSpace c) with
    | some d =>
      rw [hf] at hc; cases hc
      exact (hpre c (List.mem_of_find?_eq_some hf)).2.2
    | none => rw [hf] at hc; cases hc; exact hx'
  cases hs : strip (pre ++ x :: t) with
  | nil => rfl
  | cons c r => simp [startsWith, dropPrefix?, Ne.symm (h c (by rw [hs]; rfl))]

/-- the all-comments test of `extractDirectives` fails as soon as one line is not a comment line -/
theorem textLines_not_all_comment (before after : List Str) (l : Str) (hl : l ≠ [])
    (hf : startsWith ['#'] (strip l) = false) :
    ((if (before ++ l :: after).getLast? == some [] then (before ++ l :: after).dropLast
      else before ++ l :: after).all fun l => startsWith ['#'] (strip l)) = false := by
  split
  · rename_i h
    cases after with
    | nil => simp [hl] at h
    | cons a as =>
      rw [List.dropLast_append_of_ne_nil (by simp), List.dropLast_cons_of_ne_nil (by simp)]
      simp [hf]
  · simp [hf]

/-- `lexGo st [] = (st, _)`: `(lexGo st before).1` is the state reached after `before` -/
theorem lexGo_append (st : LexState) (before : List Str) :
    (∀ X, lexGo st (before ++ X) = lexGo st before) ∨
    (∀ X, lexGo st (before ++ X) = lexGo (lexGo st before).1 X) := by
  induction before generalizing st with
  | nil => exact Or.inr fun X => by rw [lexGo_nil]; rfl
  | cons l b ih =>
    -- every leaf of `lexGo` is a result that does not mention the lines left, or the loop on them
    simp only [List.cons_append, lexGo]
    cases st.openStr with
    | some q => dsimp only; cases closeTriple q l <;> exact ih _
    | none =>
      dsimp only
      cases st.paren == 0 with
      | false => exact ih _
      | true =>
        rcases measureIndent 0 l with ⟨col, _ | ⟨c, r⟩⟩
        · exact Or.inl fun X => rfl
        · simp only [↓reduceIte]
          cases c == '#' with
          | true => exact ih _
          | false =>
            by_cases h : col > st.indents.headD 0
            · simp only [h, ↓reduceIte]; exact ih _
            · simp only [h, ↓reduceIte]
              cases dedentTo col st.indents with
              | none => exact Or.inl fun X => rfl
              | some ind => exact ih _

end Xdoc.Lexer
