import XdocModel.Google
import XdocModel.Lemmas.Dedent
/-!
# Lemmas about `split_google_docblocks`

The groups are non-empty runs whose concatenation is `prepLines`; a block is made from one group, its offset is the
number of lines in the groups before it, and offsets strictly increase. That an offset is smaller than the number of
lines is not stated here.
-/
namespace Xdoc.Google
open Xdoc Py

theorem getIndentation_eq (l : Str) : getIndentation l = (l.takeWhile isSpace).length := by
  have h := congrArg List.length (List.takeWhile_append_dropWhile (p := isSpace) (l := l))
  rw [getIndentation, lstrip, ← h, List.length_append, Nat.add_sub_cancel]

theorem getIndentation_append (mg t : Str) (h : mg.all isSpace = true) :
    getIndentation (mg ++ t) = mg.length + getIndentation t := by
  rw [getIndentation_eq, getIndentation_eq, List.takeWhile_append_of_pos (List.all_eq_true.mp h), List.length_append]

theorem prepLines_cases (docstr : Str) :
    prepLines docstr = dedentLines (splitOn '\n' docstr) ∨
    ∃ pad l0 rest, dedentLines (splitOn '\n' docstr) = l0 :: rest ∧
      prepLines docstr = dedentLines ((pad ++ l0) :: rest) := by
  unfold prepLines
  simp only
  split
  · rename_i l0 l1 rest heq
    split
    · split
      · exact Or.inr ⟨_, l0, l1 :: rest, heq, rfl⟩
      · exact Or.inl rfl
    · exact Or.inl rfl
  · exact Or.inl rfl

theorem prepLines_length (docstr : Str) : (prepLines docstr).length = (splitOn '\n' docstr).length := by
  rcases prepLines_cases docstr with h | ⟨pad, l0, rest, h0, h⟩
  · rw [h, dedentLines_length]
  · rw [h, dedentLines_length, ← dedentLines_length (splitOn '\n' docstr), h0]; rfl

/-- the padded branch: the first line is not empty and some later line is not; `m` is the least indentation of those,
    which the code computes as `is.foldl min i1` (`(i1 :: is).min?` is `some` of that by definition) -/
theorem prepLines_padded (docstr : Str) (l0 : Str) (tl : List Str) (m : Nat)
    (h1 : dedentLines (splitOn '\n' docstr) = l0 :: tl) (h2 : l0.length ≠ 0)
    (hm : ((tl.filter (fun l => l.length > 0)).map getIndentation).min? = some m) :
    prepLines docstr = dedentLines ((leadOf m tl ++ l0) :: tl) := by
  unfold prepLines
  cases tl with
  | nil => cases hm
  | cons l1 rest =>
    simp only [h1]
    rw [if_pos (by simpa using h2), List.filter_cons_of_pos (by simpa using Nat.pos_of_ne_zero h2), List.map_cons]
    cases hN : ((l1 :: rest).filter (fun l => l.length > 0)).map getIndentation with
    | nil => rw [hN] at hm; cases hm
    | cons i1 is => rw [hN] at hm; cases hm; rfl   -- `hm : (i1 :: is).min? = some m` is `some (is.foldl min i1) = some m`

/-- `0 < i`: the first line may have been padded before the second dedent -/
theorem prepLines_suffix (docstr : Str) (i : Nat) (l' : Str) (hi : 0 < i)
    (h : (prepLines docstr)[i]? = some l') :
    ∃ l, (splitOn '\n' docstr)[i]? = some l ∧ l' <:+ l := by
  rcases prepLines_cases docstr with e | ⟨pad, l0, rest, h0, e⟩
  · exact dedentLines_suffix _ i l' (e ▸ h)
  · -- behind the padded first line the second dedent sees the lines of the first
    obtain ⟨l, hl, hs⟩ := dedentLines_suffix _ i l' (e ▸ h)
    obtain ⟨j, rfl⟩ := Nat.exists_eq_succ_of_ne_zero (Nat.ne_of_gt hi)
    obtain ⟨l2, hl2, hs2⟩ := dedentLines_suffix (splitOn '\n' docstr) (j + 1) l (by rw [h0]; exact hl)
    exact ⟨l2, hl2, hs.trans hs2⟩

theorem trueIndents_length (prev : Option Nat) (ls : List Str) : (trueIndents prev ls).length = ls.length := by
  induction ls generalizing prev with
  | nil => rfl
  | cons l ls ih => simp [trueIndents, ih]

theorem labelGo_length (gid : Nat) (prev : Option Nat) (inTag : Bool) (l : List (Str × Option Nat)) :
    (labelGo gid prev inTag l).length = l.length := by
  induction l generalizing gid prev inTag with
  | nil => rfl
  | cons x xs ih =>
    obtain ⟨line, ind⟩ := x
    unfold labelGo
    split
    · exact congrArg (· + 1) (ih ..)
    · split <;> exact congrArg (· + 1) (ih ..)

theorem groupRuns_spec (l : List (Nat × Str)) :
    (groupRuns l).flatten = l.map (·.2) ∧ ∀ g ∈ groupRuns l, g ≠ [] := by
  induction l with
  | nil => exact ⟨rfl, fun _ h => nomatch h⟩
  | cons x rest ih =>
    obtain ⟨g, s⟩ := x
    obtain ⟨ihf, ihn⟩ := ih
    -- the line opens a group of its own, or joins the first group of the rest
    have own : ([s] :: groupRuns rest).flatten = s :: rest.map (·.2) ∧ ∀ y ∈ [s] :: groupRuns rest, y ≠ [] :=
      ⟨by simp [ihf], fun y hy => (List.mem_cons.mp hy).elim (· ▸ List.cons_ne_nil _ _) (ihn y)⟩
    simp only [groupRuns]
    split
    · rename_i cur gs hr
      rw [hr] at ihf ihn own
      split
      · exact ⟨by simpa using ihf, fun y hy => (List.mem_cons.mp hy).elim (· ▸ List.cons_ne_nil _ _)
          fun hy => ihn y (List.mem_cons_of_mem _ hy)⟩
      · exact own
    · exact own

theorem groupsOf_flatten (docstr : Str) : (groupsOf docstr).flatten = prepLines docstr := by
  unfold groupsOf
  simp only
  rw [(groupRuns_spec _).1]
  apply List.map_snd_zip
  rw [labelGo_length, List.length_zip, trueIndents_length]
  simp

theorem groupsOf_ne_nil (docstr : Str) : ∀ g ∈ groupsOf docstr, g ≠ [] :=
  (groupRuns_spec _).2

theorem exists_group_of_mem_mkBlocks {off : Nat} {gs : List (List Str)} {b : Block} (h : b ∈ mkBlocks off gs) :
    ∃ pre g post, gs = pre ++ g :: post ∧ isBlankGroup g = false ∧
      b = blockOf g (off + pre.flatten.length) := by
  induction gs generalizing off with
  | nil => simp [mkBlocks] at h
  | cons g gs ih =>
    have tail (h : b ∈ mkBlocks (off + g.length) gs) : ∃ pre g' post, g :: gs = pre ++ g' :: post ∧
        isBlankGroup g' = false ∧ b = blockOf g' (off + pre.flatten.length) := by
      obtain ⟨pre, g', post, h1, h2, h3⟩ := ih h
      exact ⟨g :: pre, g', post, by simp [h1], h2, by rw [h3]; simp [Nat.add_assoc]⟩
    simp only [mkBlocks] at h
    split at h
    · exact tail h
    · rename_i hb
      exact (List.mem_cons.mp h).elim (fun e => ⟨[], g, gs, rfl, by simpa using hb, by simp [e]⟩) tail

theorem blockOf_offset (g : List Str) (off : Nat) : (blockOf g off).offset = off := by
  unfold blockOf
  split
  · split <;> rfl
  · rfl

theorem blockOf_tag {l0 : Str} (val : List Str) (off : Nat) (h : isTagLine l0 = true) :
    blockOf (l0 :: val) off =
      { key := aliasOf (rstripColon (strip l0)), text := joinWith ['\n'] (dedentLines val), offset := off } :=
  if_pos h

theorem blockOf_key_of_not_tag {l0 : Str} (val : List Str) (off : Nat) (h : ¬ isTagLine l0 = true) :
    (blockOf (l0 :: val) off).key = docKey :=
  congrArg Block.key (if_neg h)

theorem mkBlocks_sorted (off : Nat) (gs : List (List Str)) (hne : ∀ g ∈ gs, g ≠ []) :
    ((mkBlocks off gs).map (·.offset)).Pairwise (· < ·) := by
  induction gs generalizing off with
  | nil => simp [mkBlocks]
  | cons g gs ih =>
    have hg : 0 < g.length := List.length_pos_iff.mpr (hne g (by simp))
    have ih' := ih (off + g.length) (fun x hx => hne x (List.mem_cons_of_mem _ hx))
    simp only [mkBlocks]
    split
    · exact ih'
    · simp only [List.map_cons, List.pairwise_cons]
      refine ⟨?_, ih'⟩
      intro o ho
      obtain ⟨b, hb, rfl⟩ := List.mem_map.mp ho
      obtain ⟨pre, g', post, _, _, h3⟩ := exists_group_of_mem_mkBlocks hb
      rw [blockOf_offset, h3, blockOf_offset]; omega

end Xdoc.Google
