import XdocModel.Static
/-!
# The visitor of `Static.lean` is a fold of `insert` over its ordered map
-/
namespace Xdoc.Static
open Xdoc Py

/-- inserting a list of entries one after the other (what a sequence of `calldefs[k] = v` does) -/
def insertAll (l acc : List CallDef) : List CallDef := l.foldl (fun a cd => insert cd a) acc

@[simp] theorem insertAll_nil (acc : List CallDef) : insertAll [] acc = acc := rfl
@[simp] theorem insertAll_cons (cd : CallDef) (l acc : List CallDef) :
    insertAll (cd :: l) acc = insertAll l (insert cd acc) := rfl
theorem insertAll_append (l₁ l₂ acc : List CallDef) :
    insertAll (l₁ ++ l₂) acc = insertAll l₂ (insertAll l₁ acc) := by
  simp [insertAll, List.foldl_append]

@[simp] theorem keys_nil : keys [] = [] := rfl
@[simp] theorem keys_cons (x : CallDef) (xs : List CallDef) : keys (x :: xs) = x.callname :: keys xs := rfl
@[simp] theorem keys_append (xs ys : List CallDef) : keys (xs ++ ys) = keys xs ++ keys ys := by
  simp [keys]

theorem insert_of_not_mem {cd : CallDef} {acc : List CallDef} (h : cd.callname ∉ keys acc) :
    insert cd acc = acc ++ [cd] := by
  induction acc with
  | nil => rfl
  | cons x xs ih =>
    rw [keys_cons, List.mem_cons, not_or] at h
    rw [insert, if_neg (fun e => h.1 e.symm), ih h.2]; rfl

theorem keys_insert (cd : CallDef) (acc : List CallDef) :
    keys (insert cd acc) = if cd.callname ∈ keys acc then keys acc else keys acc ++ [cd.callname] := by
  induction acc with
  | nil => simp [insert]
  | cons x xs ih =>
    by_cases hx : x.callname = cd.callname
    · simp [insert, hx]
    · have hx' : ¬ cd.callname = x.callname := fun e => hx e.symm
      by_cases hm : cd.callname ∈ keys xs <;> simp [insert, hx, hx', ih, hm]

theorem mem_keys_insert {k : Str} (cd : CallDef) (acc : List CallDef) :
    k ∈ keys (insert cd acc) ↔ k ∈ keys acc ∨ k = cd.callname := by
  rw [keys_insert]; split
  · exact ⟨Or.inl, fun h => h.elim id (· ▸ ‹_›)⟩
  · simp

theorem nodup_keys_insert {cd : CallDef} {acc : List CallDef} (h : (keys acc).Nodup) :
    (keys (insert cd acc)).Nodup := by
  rw [keys_insert]; split
  · exact h
  · exact List.nodup_append.mpr ⟨h, List.pairwise_singleton _ _, fun a ha b hb e =>
      ‹¬ _› (List.mem_singleton.mp hb ▸ e ▸ ha)⟩

theorem nodup_keys_insertAll {l acc : List CallDef} (h : (keys acc).Nodup) :
    (keys (insertAll l acc)).Nodup := by
  induction l generalizing acc with
  | nil => exact h
  | cons cd l ih => exact ih (nodup_keys_insert h)

theorem mem_keys_insertAll {k : Str} (l acc : List CallDef) :
    k ∈ keys (insertAll l acc) ↔ k ∈ keys acc ∨ k ∈ keys l := by
  induction l generalizing acc with
  | nil => simp [keys]
  | cons cd l ih => rw [insertAll_cons, ih, mem_keys_insert, keys_cons, List.mem_cons, or_assoc]

theorem insertAll_of_nodup {l acc : List CallDef} (h : (keys acc ++ keys l).Nodup) :
    insertAll l acc = acc ++ l := by
  induction l generalizing acc with
  | nil => simp
  | cons cd l ih =>
    have hcd : cd.callname ∉ keys acc := fun hm => (List.nodup_append.mp h).2.2 _ hm _ (by simp) rfl
    rw [insertAll_cons, insert_of_not_mem hcd, ih (by simpa using h), List.append_assoc]; rfl

def itemsIn (loc : Locator) (cur : Option Str) (t : Tree) : List CallDef :=
  match cur with
  | none => topLevel loc t
  | some c => methodsOf loc c t

theorem visit_eq_fold (loc : Locator) (t : Tree) (st : St) :
    visit loc t st = { calldefs := insertAll (itemsIn loc st.cur t) st.calldefs, cur := st.cur } := by
  induction t generalizing st with
  | func a name decos doc body next _ ihn =>
    obtain ⟨cds, cur⟩ := st
    cases cur <;> by_cases hs : skipDeco decos <;>
      simp [visit, ihn, itemsIn, topLevel, methodsOf, hs, qualName]
  | cls name decos doc body next ihb ihn =>
    obtain ⟨cds, cur⟩ := st
    cases cur <;> simp [visit, ihb, ihn, itemsIn, topLevel, methodsOf, insertAll_append]
  | ifs test r1 r2 body orelse next ihb iho ihn =>
    obtain ⟨cds, cur⟩ := st
    cases cur <;> by_cases hg : isMainGuard test <;>
      simp [visit, ihb, iho, ihn, itemsIn, topLevel, methodsOf, hg, insertAll_append]
  | _ =>
    obtain ⟨cds, cur⟩ := st
    cases cur <;> simp [visit, itemsIn, topLevel, methodsOf, insertAll_append, *]

theorem visit_cur (loc : Locator) (t : Tree) (st : St) : (visit loc t st).cur = st.cur := by
  rw [visit_eq_fold]

theorem nodup_keys_moduleEntry (loc : Locator) (m : Module) : (keys (moduleEntry loc m)).Nodup := by
  unfold moduleEntry
  split
  · split <;> simp [keys]
  · simp [keys]

theorem methodsOf_prune (loc : Locator) (c : Str) (t : Tree) :
    methodsOf loc c (prune t true) = methodsOf loc c t := by
  induction t with
  | func a name decos doc body next _ ihn => by_cases hs : skipDeco decos <;> simp [prune, methodsOf, hs, ihn]
  | ifs test r1 r2 body orelse next ihb iho ihn =>
    by_cases hg : isMainGuard test <;> simp [prune, methodsOf, hg, ihb, iho, ihn]
  | _ => simp [prune, methodsOf, *]

theorem topLevel_prune (loc : Locator) (t : Tree) :
    topLevel loc (prune t false) = topLevel loc t := by
  induction t with
  | func a name decos doc body next _ ihn => by_cases hs : skipDeco decos <;> simp [prune, topLevel, hs, ihn]
  | ifs test r1 r2 body orelse next ihb iho ihn =>
    by_cases hg : isMainGuard test <;> simp [prune, topLevel, hg, ihb, iho, ihn]
  | _ => simp [prune, topLevel, methodsOf_prune, *]

theorem pyIndex_nat {α : Type} (xs : List α) (a : Nat) : pyIndex xs (a : Int) = xs[a]? := by
  simp [pyIndex]

theorem tripStep_at (docstr : Str) (src : List Str) (a b : Nat) (la lb trip : Str)
    (hab : a ≤ b) (hla : src[a]? = some la) (hn : countChar '\n' docstr = b - a) :
    tripStep (countChar '\n' docstr) src (b + 1) lb trip =
      .ok (if endOk trip lb && startOk trip la then some (a : Int) else none) := by
  unfold tripStep
  have hc : ((b + 1 : Nat) : Int) - (countChar '\n' docstr : Nat) - 1 = (a : Int) := by
    rw [hn]; omega
  by_cases he : endOk trip lb = true
  · simp only [he, if_true, hc, pyIndex_nat, hla, Bool.true_and]
    by_cases hs : startOk trip la = true <;> simp [hs]
  · simp [he]

/-- both variants of `_docnode_line_workaround` (`Generated.docstartUsesNodeLineno`) give the same lines when the start
    recovered from the end line is the line the node itself names -/
theorem docLines_of_findDocStart {src : List Str} {d : Doc} {s : Int} {e : Nat}
    (h : findDocStart d.text src (d.endLine - 1) = .ok (s, e)) (hs : (d.startLine : Int) = s + 1) (he : d.endLine = e) :
    docLines src d = .ok (s + 1, e) := by
  unfold docLines
  split
  · rw [hs, he]
  · rw [h]

end Xdoc.Static
