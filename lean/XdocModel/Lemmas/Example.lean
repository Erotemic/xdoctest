import XdocModel.Example
/-! The run loop of `Example.lean`. `decideExec` and `stepPart` are large case analyses; each is described
    once by an inductive predicate whose constructors carry the concrete result (`Decided`, `StepSpec`), so
    that a user takes `cases` on the description and reads every field off by `rfl`. The bookkeeping of the
    loop is one fact: the skipped and the executed indices together are a permutation of `range i`, each
    increasing (`Recorded`); `LoopInv` and `LoopResult` are consequences of it. -/
namespace Xdoc
open Py

variable {Env : Type}

def ExecResult.stdout : ExecResult → Str
  | .ok out _ => out
  | .raised out _ _ => out
  | .exit out _ => out
  | .compileError _ => []
  | .existingLoop => []

/-- the decisions `decideExec` can take for a part whose execution gave `res`: the output it records is
    what the part wrote, only a compile error stops without the part counting as executed, and `escape`
    needs an exception without a doctest frame -/
inductive Decided (res : ExecResult) : Act → Prop
  | ran (u : UnmAct) : Decided res (.ran res.stdout u)
  | exit : Decided res (.halt true res.stdout none)
  | fail (k : FailKind) (tb : Nat) (hk : k ≠ .importError) : Decided res (.halt true res.stdout (some (k, tb)))
  | compile (tb : Nat) : Decided res (.halt false [] (some (.compile, tb)))
  | escape (h : ∃ o l, res = .raised o l none) : Decided res (.escape res.stdout)

theorem decideExec_decided (f : Flags) (iw : Bool) (want : Option Str) (unm : List Str) (res : ExecResult) :
    Decided res (decideExec f iw want unm res) := by
  cases res with
  | compileError ln => exact .compile _
  | existingLoop => exact .fail _ _ nofun
  | ok out ev =>
    cases want with
    | none => exact .ran _
    | some w =>
      cases iw with
      | true => exact .ran _
      | false =>
        simp only [decideExec, Bool.false_eq_true, ↓reduceIte]
        cases partCheck f w out ev unm
        · exact .ran _
        · exact .fail _ _ nofun
        · exact .fail _ _ nofun
  | «exit» out line =>
    cases want with
    | none => exact .exit
    | some w =>
      simp only [decideExec]
      cases checkException f line w with
      | none => exact .exit
      | some b => cases b
                  · exact .fail _ _ nofun
                  · exact .ran _
  | raised out line tb =>
    -- without a want that matches: a failure if the traceback has a doctest frame, else the exception escapes
    have esc : Decided (.raised out line tb) (match tb with
        | some ln => .halt true out (some (.exception, ln)) | none => .escape out) := by
      cases tb
      · exact .escape ⟨_, _, rfl⟩
      · exact .fail _ _ nofun
    cases want with
    | none => exact esc
    | some w =>
      simp only [decideExec]
      cases checkException f line w with
      | none => exact esc
      | some b => cases b
                  · exact .fail _ _ nofun
                  · exact .ran _

/-- `rs`, `unm`: whatever became of the directive state and the unmatched output -/
def ranState (sem : Env → Nat → RunPart → ExecResult × Env) (s : RunState Env) (i : Nat) (p : RunPart)
    (rs : RState) (unm : List Str) : RunState Env :=
  { s with rs := rs, didImport := true, unmatched := unm, env := (sem s.env i p).2,
           executed := s.executed ++ [i], logged := s.logged ++ [(i, (sem s.env i p).1.stdout)] }

inductive StepSpec (sem : Env → Nat → RunPart → ExecResult × Env) (cfg : RunCfg) (s : RunState Env)
    (i : Nat) (p : RunPart) : Step Env → Prop
  | skip (rs : RState) : StepSpec sem cfg s i p (.continue { s with rs := rs, skipped := s.skipped ++ [i] })
  | ran (rs : RState) (unm : List Str) : StepSpec sem cfg s i p (.continue (ranState sem s i p rs unm))
  | exit (rs : RState) (unm : List Str) : StepSpec sem cfg s i p (.stop (ranState sem s i p rs unm) .returned)
  | escape (rs : RState) (unm : List Str) (h : ∃ o l, (sem s.env i p).1 = .raised o l none) :
      StepSpec sem cfg s i p (.stop (ranState sem s i p rs unm) .escaped)
  | failRan (rs : RState) (unm : List Str) (k : FailKind) (tb : Nat) (hk : k ≠ .importError) :
      StepSpec sem cfg s i p
        (.stop { ranState sem s i p rs unm with failure := some { kind := k, partIdx := i, tbLineno := tb } }
          (endOf cfg k))
  | failEarly (rs : RState) (di : Bool) (k : FailKind) (tb : Nat) (hdi : k = .importError → di = false) :
      StepSpec sem cfg s i p
        (.stop { s with rs := rs, didImport := di, failure := some { kind := k, partIdx := i, tbLineno := tb } }
          (endOf cfg k))

theorem preStage_importFail {sat : Str → Option Bool} {cfg : RunCfg} {rs0 rs : RState} {di : Bool} {p : RunPart}
    (h : preStage sat cfg rs0 di p = .importFail rs) : di = false := by
  cases di with
  | false => rfl
  | true =>
    unfold preStage at h
    split at h
    · cases h
    · simp only [Bool.not_true, Bool.false_and, Bool.false_eq_true, ↓reduceIte] at h
      split at h
      · cases h
      · split at h <;> cases h

section Step
variable (sat : Str → Option Bool) (sem : Env → Nat → RunPart → ExecResult × Env) (cfg : RunCfg)

theorem stepPart_spec (s : RunState Env) (i : Nat) (p : RunPart) :
    StepSpec sem cfg s i p (stepPart sat sem cfg s i p) := by
  unfold stepPart
  cases hpre : preStage sat cfg s.rs s.didImport p with
  | dirError => exact .failEarly s.rs s.didImport _ _ nofun
  | skip rs => exact .skip rs
  | importFail rs => exact .failEarly rs s.didImport _ _ fun _ => preStage_importFail hpre
  | exec rs =>
    have d := decideExec_decided (flagsOf rs) ((rs.getBool "IGNORE_WANT").getD false) p.part.want s.unmatched
      (sem s.env i p).1
    simp only
    generalize decideExec _ _ _ _ _ = a at d ⊢
    cases d with
    | ran u => exact .ran rs _
    | exit => exact .exit rs _
    | fail k tb hk => exact .failRan rs _ k tb hk
    | compile tb => exact .failEarly rs true _ _ nofun
    | escape h => exact .escape rs _ h

structure ContinueFacts (s s' : RunState Env) (i : Nat) : Prop where
  failure : s'.failure = s.failure
  shape : (s'.skipped = s.skipped ∧ s'.executed = s.executed ++ [i]) ∨
          (s'.skipped = s.skipped ++ [i] ∧ s'.executed = s.executed ∧ s'.env = s.env ∧
            s'.unmatched = s.unmatched ∧ s'.logged = s.logged)

structure StopFacts (cfg : RunCfg) (s s' : RunState Env) (i : Nat) (e : RunEnd) : Prop where
  skipped : s'.skipped = s.skipped
  executed : s'.executed = s.executed ∨ s'.executed = s.executed ++ [i]
  failure : s'.failure = s.failure ∨ ∃ fl, s'.failure = some fl ∧ fl.partIdx = i
  ending : (e = .returned ∧ (s'.failure = s.failure ∨ cfg.onError = .ret)) ∨ (e = .escaped ∧ s'.failure = s.failure) ∨
           (∃ fl, e = .raised fl.kind ∧ cfg.onError = .raise ∧ s'.failure = some fl)

variable {sat sem cfg} {s s' : RunState Env} {i : Nat} {p : RunPart}

theorem stepPart_continue (h : stepPart sat sem cfg s i p = .continue s') : ContinueFacts s s' i := by
  have sp := stepPart_spec sat sem cfg s i p
  rw [h] at sp
  cases sp with
  | skip rs => exact ⟨rfl, .inr ⟨rfl, rfl, rfl, rfl, rfl⟩⟩
  | ran rs unm => exact ⟨rfl, .inl ⟨rfl, rfl⟩⟩

theorem stepPart_stop {e : RunEnd} (h : stepPart sat sem cfg s i p = .stop s' e) : StopFacts cfg s s' i e ∧
    (s'.failure = none → s'.executed = s.executed ++ [i]) ∧ (e = .escaped → ∃ o l, (sem s.env i p).1 = .raised o l none) := by
  have sp := stepPart_spec sat sem cfg s i p
  rw [h] at sp
  -- a recorded failure leaves `run` as `on_error` says
  have fails : ∀ fl : Failure, (endOf cfg fl.kind = .returned ∧ (some fl = s.failure ∨ cfg.onError = .ret)) ∨
      (endOf cfg fl.kind = .escaped ∧ some fl = s.failure) ∨
      ∃ fl', endOf cfg fl.kind = .raised fl'.kind ∧ cfg.onError = .raise ∧ some fl = some fl' := by
    intro fl
    unfold endOf
    cases hc : cfg.onError
    · exact .inr (.inr ⟨fl, rfl, rfl, rfl⟩)
    · exact .inl ⟨rfl, .inr rfl⟩
  have ne : ∀ k, endOf cfg k ≠ .escaped := by intro k; unfold endOf; split <;> nofun
  cases sp with
  | exit rs unm => exact ⟨⟨rfl, .inr rfl, .inl rfl, .inl ⟨rfl, .inl rfl⟩⟩, fun _ => rfl, nofun⟩
  | escape rs unm hr => exact ⟨⟨rfl, .inr rfl, .inl rfl, .inr (.inl ⟨rfl, rfl⟩)⟩, fun _ => rfl, fun _ => hr⟩
  | failRan rs unm k tb =>
    exact ⟨⟨rfl, .inr rfl, .inr ⟨_, rfl, rfl⟩, fails ⟨k, i, tb⟩⟩, fun _ => rfl, fun he => absurd he (ne k)⟩
  | failEarly rs di k tb =>
    exact ⟨⟨rfl, .inl rfl, .inr ⟨_, rfl, rfl⟩, fails ⟨k, i, tb⟩⟩, nofun, fun he => absurd he (ne k)⟩

end Step

section Loop
variable (sat : Str → Option Bool) (sem : Env → Nat → RunPart → ExecResult × Env) (cfg : RunCfg)

def Step.state : Step Env → RunState Env
  | .continue s => s
  | .stop s _ => s

theorem runLoop_preserves {P : RunState Env → Prop} (parts : List RunPart)
    (step : ∀ s i p, parts[i]? = some p → P s → P (stepPart sat sem cfg s i p).state)
    (s : RunState Env) (h : P s) : P (runLoop sat sem cfg s 0 parts).1 := by
  suffices ∀ ps s i, parts.drop i = ps → P s → P (runLoop sat sem cfg s i ps).1 from this parts s 0 rfl h
  intro ps
  induction ps with
  | nil => exact fun _ _ _ h => h
  | cons p ps ih =>
    intro s i hps h
    have hp : parts[i]? = some p := by rw [← Nat.add_zero i, ← List.getElem?_drop, hps]; rfl
    have h' := step s i p hp h
    simp only [runLoop]
    cases hstep : stepPart sat sem cfg s i p with
    | «continue» s' => rw [hstep] at h'; exact ih s' (i + 1) (by rw [← List.drop_drop, hps]; rfl) h'
    | stop s' e => rw [hstep] at h'; exact h'

def Step.map (φ : RunState Env → RunState Env) (ψ : RunState Env → RunEnd → RunEnd) : Step Env → Step Env
  | .continue s => .continue (φ s)
  | .stop s e => .stop (φ s) (ψ s e)

/-- simulation: loops whose iterations correspond return corresponding results -/
theorem runLoop_map {sat' : Str → Option Bool} {sem' : Env → Nat → RunPart → ExecResult × Env} {cfg' : RunCfg}
    (φ : RunState Env → RunState Env) (ψ : RunState Env → RunEnd → RunEnd) (Inv : RunState Env → Prop) (k : Nat)
    (hstep : ∀ s i p, Inv s → stepPart sat' sem' cfg' (φ s) (i + k) p = (stepPart sat sem cfg s i p).map φ ψ)
    (hinv : ∀ s i p s', Inv s → stepPart sat sem cfg s i p = .continue s' → Inv s')
    (ps : List RunPart) (s : RunState Env) (i : Nat) (hs : Inv s) :
    runLoop sat' sem' cfg' (φ s) (i + k) ps =
      (φ (runLoop sat sem cfg s i ps).1, (runLoop sat sem cfg s i ps).2.map (ψ (runLoop sat sem cfg s i ps).1)) := by
  induction ps generalizing s i with
  | nil => rfl
  | cons p ps ih =>
    simp only [runLoop, hstep s i p hs]
    cases hst : stepPart sat sem cfg s i p with
    | «continue» s' => rw [Step.map, ← ih s' (i + 1) (hinv s i p s' hs hst), Nat.add_right_comm]
    | stop s' e => rfl

structure Recorded (sk ex : List Nat) (i : Nat) : Prop where
  perm : (sk ++ ex).Perm (List.range i)
  left : sk.Pairwise (· < ·)
  right : ex.Pairwise (· < ·)

namespace Recorded
variable {sk ex : List Nat} {i : Nat}

theorem mem_iff (r : Recorded sk ex i) {j : Nat} : j ∈ sk ∨ j ∈ ex ↔ j < i := by
  rw [← List.mem_append, r.perm.mem_iff, List.mem_range]

theorem nodup (r : Recorded sk ex i) : (sk ++ ex).Nodup := r.perm.nodup_iff.mpr List.nodup_range

theorem length (r : Recorded sk ex i) : sk.length + ex.length = i := by
  rw [← List.length_append, r.perm.length_eq, List.length_range]

theorem append_lt {l : List Nat} (h : l.Pairwise (· < ·)) (hl : ∀ j ∈ l, j < i) : (l ++ [i]).Pairwise (· < ·) :=
  List.pairwise_append.mpr ⟨h, List.pairwise_singleton _ _, fun a ha _ hb => List.mem_singleton.mp hb ▸ hl a ha⟩

theorem ran (r : Recorded sk ex i) : Recorded sk (ex ++ [i]) (i + 1) :=
  ⟨by rw [List.range_succ, ← List.append_assoc]; exact r.perm.append_right _, r.left,
    append_lt r.right fun _ hj => r.mem_iff.mp (.inr hj)⟩

theorem skip (r : Recorded sk ex i) : Recorded (sk ++ [i]) ex (i + 1) where
  perm := by
    have h : (sk ++ [i] ++ ex).Perm (sk ++ ex ++ [i]) := by
      rw [List.append_assoc, List.append_assoc]; exact List.perm_append_comm.append_left sk
    rw [List.range_succ]; exact h.trans (r.perm.append_right _)
  left := append_lt r.left fun _ hj => r.mem_iff.mp (.inl hj)
  right := r.right

end Recorded

/-- apart from `noFailure` this is `Recorded s.skipped s.executed i` (`LoopInv.recorded`, `LoopInv.of_recorded`),
    which is what the proofs use -/
structure LoopInv (s : RunState Env) (i : Nat) : Prop where
  noFailure : s.failure = none
  sorted : (s.skipped ++ s.executed).Nodup
  skippedLt : ∀ j ∈ s.skipped, j < i
  executedLt : ∀ j ∈ s.executed, j < i
  skippedSorted : s.skipped.Pairwise (· < ·)
  executedSorted : s.executed.Pairwise (· < ·)
  count : s.skipped.length + s.executed.length = i
  covered : ∀ j, j < i → j ∈ s.skipped ∨ j ∈ s.executed

theorem LoopInv.recorded {s : RunState Env} {i : Nat} (inv : LoopInv s i) : Recorded s.skipped s.executed i :=
  ⟨(List.perm_ext_iff_of_nodup inv.sorted List.nodup_range).mpr fun j => by
      rw [List.mem_append, List.mem_range]
      exact ⟨fun h => h.elim (inv.skippedLt j) (inv.executedLt j), inv.covered j⟩,
    inv.skippedSorted, inv.executedSorted⟩

theorem LoopInv.of_recorded {s : RunState Env} {i : Nat} (hf : s.failure = none)
    (r : Recorded s.skipped s.executed i) : LoopInv s i :=
  ⟨hf, r.nodup, fun _ h => r.mem_iff.mp (.inl h), fun _ h => r.mem_iff.mp (.inr h), r.left, r.right, r.length,
    fun _ h => r.mem_iff.mpr h⟩

theorem LoopInv.step {s s' : RunState Env} {i : Nat} (inv : LoopInv s i) (c : ContinueFacts s s' i) :
    LoopInv s' (i + 1) := by
  refine .of_recorded (c.failure ▸ inv.noFailure) ?_
  rcases c.shape with ⟨h1, h2⟩ | ⟨h1, h2, _⟩
  · rw [h1, h2]; exact inv.recorded.ran
  · rw [h1, h2]; exact inv.recorded.skip

structure LoopResult (sem : Env → Nat → RunPart → ExecResult × Env) (cfg : RunCfg) (n : Nat)
    (s : RunState Env) (e : Option RunEnd) : Prop where
  skippedSorted : s.skipped.Pairwise (· < ·)
  executedSorted : s.executed.Pairwise (· < ·)
  disjoint : (s.skipped ++ s.executed).Nodup
  bound : ∀ j, j ∈ s.skipped ∨ j ∈ s.executed → j < n
  failure : ∀ fl, s.failure = some fl →
      fl.partIdx < n ∧ fl.partIdx ∉ s.skipped ∧ (∀ j ∈ s.executed, j ≤ fl.partIdx) ∧
      (∀ j ∈ s.skipped, j < fl.partIdx) ∧ e.isSome ∧
      (∀ j, j < fl.partIdx → j ∈ s.skipped ∨ j ∈ s.executed)
  complete : e = none → s.failure = none ∧ s.skipped.length + s.executed.length = n
  stopped : e.isSome → s.skipped.length < n
  stoppedRan : e.isSome → s.failure = none → s.executed ≠ []
  escaped : e = some .escaped → ∃ env i p o l, (sem env i p).1 = .raised o l none
  ending : ∀ e', e = some e' →
      (e' = .returned ∧ (s.failure = none ∨ cfg.onError = .ret)) ∨ (e' = .escaped ∧ s.failure = none) ∨
      (∃ fl, e' = .raised fl.kind ∧ cfg.onError = .raise ∧ s.failure = some fl)

namespace LoopResult
variable {sem : Env → Nat → RunPart → ExecResult × Env} {cfg : RunCfg} {n : Nat} {s : RunState Env}
  {e : Option RunEnd} {fl : Failure}

theorem failure_lt (r : LoopResult sem cfg n s e) (h : s.failure = some fl) : fl.partIdx < n := (r.failure fl h).1
theorem failure_not_skipped (r : LoopResult sem cfg n s e) (h : s.failure = some fl) : fl.partIdx ∉ s.skipped :=
  (r.failure fl h).2.1
theorem executed_le_failure (r : LoopResult sem cfg n s e) (h : s.failure = some fl) :
    ∀ j ∈ s.executed, j ≤ fl.partIdx := (r.failure fl h).2.2.1
theorem failure_stopped (r : LoopResult sem cfg n s e) (h : s.failure = some fl) : e.isSome := (r.failure fl h).2.2.2.2.1
theorem covered_below_failure (r : LoopResult sem cfg n s e) (h : s.failure = some fl) :
    ∀ j, j < fl.partIdx → j ∈ s.skipped ∨ j ∈ s.executed := (r.failure fl h).2.2.2.2.2

end LoopResult

theorem runLoop_cases {I : RunState Env → Nat → Prop}
    (cont : ∀ s i p s', I s i → stepPart sat sem cfg s i p = .continue s' → I s' (i + 1))
    (ps : List RunPart) (s : RunState Env) (i : Nat) (h : I s i) :
    ((runLoop sat sem cfg s i ps).2 = none ∧ I (runLoop sat sem cfg s i ps).1 (i + ps.length)) ∨
    ∃ s0 j p e, I s0 j ∧ i ≤ j ∧ j < i + ps.length ∧
      stepPart sat sem cfg s0 j p = .stop (runLoop sat sem cfg s i ps).1 e ∧ (runLoop sat sem cfg s i ps).2 = some e := by
  induction ps generalizing s i with
  | nil => exact .inl ⟨rfl, h⟩
  | cons p ps ih =>
    rw [List.length_cons, ← Nat.add_assoc, Nat.add_right_comm]
    simp only [runLoop]
    cases hstep : stepPart sat sem cfg s i p with
    | «continue» s' =>
      refine (ih s' (i + 1) (cont s i p s' h hstep)).imp_right ?_
      rintro ⟨s0, j, q, e, h0, h1, h2, h3⟩
      exact ⟨s0, j, q, e, h0, by omega, h2, h3⟩
    | stop s' e => exact .inr ⟨s, i, p, e, h, Nat.le_refl _, by omega, hstep, rfl⟩

theorem runLoop_result (ps : List RunPart) (s : RunState Env) (i : Nat) (inv : LoopInv s i) :
    LoopResult sem cfg (i + ps.length) (runLoop sat sem cfg s i ps).1 (runLoop sat sem cfg s i ps).2 := by
  rcases runLoop_cases sat sem cfg (I := LoopInv) (fun _ _ _ _ inv hc => inv.step (stepPart_continue hc)) ps s i inv
    with ⟨he, inv'⟩ | ⟨s0, j, p, e, inv0, hij, hjn, hstep, he⟩
  · rw [he]
    have r := inv'.recorded
    exact { skippedSorted := r.left, executedSorted := r.right, disjoint := r.nodup, bound := fun _ => r.mem_iff.mp,
            failure := fun fl h => (by rw [inv'.noFailure] at h; cases h),
            complete := fun _ => ⟨inv'.noFailure, r.length⟩, stopped := nofun, stoppedRan := nofun,
            escaped := nofun, ending := nofun }
  · rw [he]
    generalize (runLoop sat sem cfg s i ps).1 = s' at hstep ⊢
    obtain ⟨f, hran, hesc⟩ := stepPart_stop hstep
    have r := inv0.recorded
    -- the stopping part is executed or not: the lists of `s'` record the parts below `k`, `k = j + 1` or `j`
    obtain ⟨k, hjk, hkj, r'⟩ : ∃ k, j ≤ k ∧ k ≤ j + 1 ∧ Recorded s'.skipped s'.executed k := by
      rcases f.executed with h | h
      · exact ⟨j, Nat.le_refl _, Nat.le_succ _, by rw [f.skipped, h]; exact r⟩
      · exact ⟨j + 1, Nat.le_succ _, Nat.le_refl _, by rw [f.skipped, h]; exact r.ran⟩
    have hfail := f.failure
    have hend := f.ending
    rw [inv0.noFailure] at hfail hend
    refine { skippedSorted := r'.left, executedSorted := r'.right, disjoint := r'.nodup,
             bound := fun x hx => by have := r'.mem_iff.mp hx; omega,
             failure := ?_, complete := nofun, stopped := ?_, stoppedRan := ?_, escaped := ?_, ending := ?_ }
    · intro fl hfl
      have hidx : fl.partIdx = j := by
        rcases hfail with h | ⟨fl', h, hi⟩
        · rw [h] at hfl; cases hfl
        · rw [h] at hfl; cases hfl; exact hi
      rw [hidx, f.skipped]
      exact ⟨hjn,
        fun h => Nat.lt_irrefl _ (r.mem_iff.mp (.inl h)),
        fun x hx => by have := r'.mem_iff.mp (.inr hx); omega,
        fun x hx => r.mem_iff.mp (.inl hx), rfl,
        fun x hx => f.skipped ▸ r'.mem_iff.mpr (Nat.lt_of_lt_of_le hx hjk)⟩
    · intro _; rw [f.skipped]; have := r.length; omega
    · intro _ hnf; rw [hran hnf]; simp
    · intro he
      obtain ⟨o, l, h⟩ := hesc (Option.some.inj he)
      exact ⟨_, _, _, o, l, h⟩
    · intro e' he'; cases he'; exact hend

theorem runLoop_complete (ps : List RunPart) (s : RunState Env) (i : Nat) (inv : LoopInv s i)
    (h : (runLoop sat sem cfg s i ps).2 = none) : LoopInv (runLoop sat sem cfg s i ps).1 (i + ps.length) := by
  rcases runLoop_cases sat sem cfg (I := LoopInv) (fun _ _ _ _ inv hc => inv.step (stepPart_continue hc)) ps s i inv
    with ⟨_, h'⟩ | ⟨_, _, _, _, _, _, _, _, he⟩
  · exact h'
  · rw [h] at he; cases he

theorem loopInv_init (env0 : Env) (rs : RState) :
    LoopInv ({ env := env0, rs := rs } : RunState Env) 0 :=
  ⟨rfl, by simp, by simp, by simp, by simp, by simp, by simp, by intro j hj; omega⟩

theorem run_result (env0 : Env) (parts : List RunPart) :
    LoopResult sem cfg parts.length
      (runLoop sat sem cfg { env := env0, rs := RState.init cfg.defaults } 0 parts).1
      (runLoop sat sem cfg { env := env0, rs := RState.init cfg.defaults } 0 parts).2 := by
  have := runLoop_result sat sem cfg parts { env := env0, rs := RState.init cfg.defaults } 0 (loopInv_init env0 _)
  rwa [Nat.zero_add] at this

def runEnding (cfg : RunCfg) (n : Nat) (s : RunState Env) : Option RunEnd → RunEnd
  | some e => e
  | none => if s.skipped.length == n && cfg.pytestMode then .pytestSkip else .returned

theorem LoopResult.runEnding_returned {sem : Env → Nat → RunPart → ExecResult × Env} {cfg : RunCfg} {n : Nat}
    {s : RunState Env} {e : Option RunEnd} (r : LoopResult sem cfg n s e)
    (hret : cfg.onError = .ret) (hnat : cfg.pytestMode = false)
    (hframe : ∀ env i p o l, (sem env i p).1 ≠ .raised o l none) : runEnding cfg n s e = .returned := by
  cases e with
  | none => simp [runEnding, hnat]
  | some e =>
    rcases r.ending e rfl with ⟨h, _⟩ | ⟨h, _⟩ | ⟨fl, _, h, _⟩
    · exact h
    · obtain ⟨env, i, p, o, l, h'⟩ := r.escaped (h ▸ rfl)
      exact absurd h' (hframe env i p o l)
    · rw [hret] at h; cases h

theorem run_eq (env0 : Env) (parts : List RunPart) :
    run sat sem cfg env0 parts =
      { state := (runLoop sat sem cfg { env := env0, rs := RState.init cfg.defaults } 0 parts).1,
        ending := runEnding cfg parts.length
          (runLoop sat sem cfg { env := env0, rs := RState.init cfg.defaults } 0 parts).1
          (runLoop sat sem cfg { env := env0, rs := RState.init cfg.defaults } 0 parts).2,
        summary := summaryOf parts.length
          (runLoop sat sem cfg { env := env0, rs := RState.init cfg.defaults } 0 parts).1 } := by
  simp only [run]
  generalize runLoop sat sem cfg { env := env0, rs := RState.init cfg.defaults } 0 parts = r
  obtain ⟨s, _ | e⟩ := r
  · simp only [runEnding]; split <;> rfl
  · cases e <;> rfl

theorem run_state (env0 : Env) (parts : List RunPart) :
    (run sat sem cfg env0 parts).state =
      (runLoop sat sem cfg { env := env0, rs := RState.init cfg.defaults } 0 parts).1 := by
  rw [run_eq]

theorem run_summary (env0 : Env) (parts : List RunPart) :
    (run sat sem cfg env0 parts).summary = summaryOf parts.length (run sat sem cfg env0 parts).state := by
  rw [run_eq]

end Loop

end Xdoc
