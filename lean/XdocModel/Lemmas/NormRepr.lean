import XdocModel.Checker
import XdocModel.Lemmas.Checker
import XdocModel.Lemmas.Ellipsis
/-!
The quote step `norm_repr` of `checker.normalize` (C05: monotonicity of NORMALIZE_REPR, and of
ELLIPSIS under it). `_check_match got want` (equality, or the wildcard relation with `want` as
the pattern) can only hold when `got` starts with at least as many copies of a quote character as
`want` does, because a quote is neither whitespace nor a dot and therefore belongs to the first
literal piece of the pattern. Removing one pair of surrounding quotes strictly lowers that count.
Hence, once `got` matches `want`, no unquoted version of `want` can match `got` as a pattern: the
second `norm_repr` call leaves `want` alone.
-/
namespace Xdoc
open Py Re

def lead (q : Char) (s : Str) : Nat := (s.takeWhile (· == q)).length

theorem le_lead_of_prefix {q : Char} {t s : Str} (ht : ∀ c ∈ t, (c == q) = true) (h : t <+: s) :
    t.length ≤ lead q s := by
  obtain ⟨r, rfl⟩ := h
  unfold lead
  rw [List.takeWhile_append_of_pos ht]; simp

theorem lead_prefix_le (q : Char) {p s : Str} (h : p <+: s) : lead q p ≤ lead q s :=
  le_lead_of_prefix (fun _ hc => mem_takeWhile_pos (p := (· == q)) hc) ((List.takeWhile_prefix _).trans h)

theorem quote_plain {q : Char} (h : q = '"' ∨ q = '\'') : isSpace q = false ∧ q ≠ '.' := by
  rcases h with rfl | rfl
  · exact ⟨isSpace_dquote, by decide⟩
  · exact ⟨isSpace_squote, by decide⟩

theorem lead_le_of_checkMatch {q : Char} (hq : isSpace q = false) (hd : q ≠ '.') (f : Flags)
    {a b : Str} (h : checkMatch f a b = true) : lead q b ≤ lead q a := by
  unfold checkMatch at h
  simp only [Bool.or_eq_true, beq_iff_eq, Bool.and_eq_true] at h
  rcases h with h | ⟨_, h⟩
  · rw [h]; exact Nat.le_refl _
  · cases hc : contains dots b with
    | false => rw [(ellipsisMatch_no_dots hc).mp h]; exact Nat.le_refl _
    | true =>
      obtain ⟨first, mids, last, hs, mid, rfl, _⟩ := (ellipsisMatch_iff hc).mp h
      have hplain : ∀ c ∈ b.takeWhile (· == q), isSpace c = false ∧ c ≠ '.' := fun c hc => by
        rw [beq_iff_eq.mp (mem_takeWhile_pos (p := (· == q)) hc)]; exact ⟨hq, hd⟩
      have := plain_prefix_first_piece hplain hs (List.takeWhile_prefix _)
      exact le_lead_of_prefix (fun _ hc => mem_takeWhile_pos (p := (· == q)) hc) (this.trans ⟨mid ++ last, by simp⟩)

theorem lead_unquote_lt {q : Char} {w w0 : Str} (h : unquote? q w = some w0) :
    lead q w0 < lead q w := by
  rcases unquote?_eq_some.mp h with ⟨rfl, rfl⟩ | rfl
  · simp [lead]
  · have : lead q w0 ≤ lead q (w0 ++ [q]) := lead_prefix_le q ⟨[q], rfl⟩
    simp only [lead, List.takeWhile_cons, beq_self_eq_true, ↓reduceIte, List.length_cons] at this ⊢
    omega

theorem unquote?_ne {q : Char} {b a : Str} (h : unquote? q b = some a) : b ≠ a := by
  intro e; subst e
  exact absurd (lead_unquote_lt h) (Nat.lt_irrefl _)

theorem unquote?_no_rev_match (f : Flags) {a b b0 : Str} {q : Char} (hq : q = '"' ∨ q = '\'')
    (h : checkMatch f a b = true) (hu : unquote? q b = some b0) : checkMatch f b0 a = false := by
  obtain ⟨h1, h2⟩ := quote_plain hq
  cases hc : checkMatch f b0 a with
  | false => rfl
  | true =>
    have l1 := lead_le_of_checkMatch h1 h2 f h
    have l2 := lead_le_of_checkMatch h1 h2 f hc
    have l3 := lead_unquote_lt hu
    omega

theorem normReprStep_of_match (f : Flags) {a b : Str} (h : checkMatch f a b = true) :
    normReprStep f a b = a := by
  simp [normReprStep, h]

theorem checkMatch_refl (f : Flags) (a : Str) : checkMatch f a a = true := by simp [checkMatch]

theorem unquote?_dquote_squote_absurd {a x y : Str} (h1 : unquote? '"' a = some x)
    (h2 : unquote? '\'' a = some y) : False := by
  have e1 : a.head? = some '"' := by
    rcases unquote?_eq_some.mp h1 with ⟨rfl, _⟩ | rfl <;> rfl
  have e2 : a.head? = some '\'' := by
    rcases unquote?_eq_some.mp h2 with ⟨rfl, _⟩ | rfl <;> rfl
  rw [e1] at e2; cases e2

theorem normReprStep_spec (f : Flags) (a b : Str) :
    (checkMatch f a b = true ∧ normReprStep f a b = a) ∨
    (∃ q a0, (q = '"' ∨ q = '\'') ∧ unquote? q a = some a0 ∧ checkMatch f a0 b = true ∧
      normReprStep f a b = a0) ∨
    (checkMatch f a b = false ∧ normReprStep f a b = a ∧
      ∀ q a0, (q = '"' ∨ q = '\'') → unquote? q a = some a0 → checkMatch f a0 b = false) := by
  cases hm : checkMatch f a b with
  | true => exact .inl ⟨rfl, normReprStep_of_match f hm⟩
  | false =>
    refine .inr ?_
    have pick : ∀ q a0, (q = '"' ∨ q = '\'') → unquote? q a = some a0 →
        unquote? '"' a = some a0 ∨ unquote? '\'' a = some a0 := by
      rintro q a0 (rfl | rfl) hu
      · exact .inl hu
      · exact .inr hu
    unfold normReprStep
    simp only [hm, Bool.false_eq_true, ↓reduceIte]
    cases h1 : unquote? '"' a with
    | some a' =>
      -- a text has at most one kind of surrounding quotes: the single-quote leaves below vanish
      have h2 : unquote? '\'' a = none := by
        cases h2 : unquote? '\'' a with
        | none => rfl
        | some y => exact (unquote?_dquote_squote_absurd h1 h2).elim
      simp only [h2]
      cases hm1 : checkMatch f a' b with
      | true => exact .inl ⟨'"', a', .inl rfl, h1, hm1, by simp⟩
      | false =>
        refine .inr ⟨trivial, by simp, fun q a0 hq hu => ?_⟩
        obtain rfl : a' = a0 := by simpa [h1, h2] using pick q a0 hq hu
        exact hm1
    | none =>
      cases h2 : unquote? '\'' a with
      | some a'' =>
        simp only
        cases hm2 : checkMatch f a'' b with
        | true => exact .inl ⟨'\'', a'', .inr rfl, h2, hm2, by simp⟩
        | false =>
          refine .inr ⟨trivial, by simp, fun q a0 hq hu => ?_⟩
          obtain rfl : a'' = a0 := by simpa [h1, h2] using pick q a0 hq hu
          exact hm2
      | none =>
        exact .inr ⟨trivial, rfl, fun q a0 hq hu => by simpa [h1, h2] using pick q a0 hq hu⟩

theorem normReprStep_cases (f : Flags) (a b : Str) :
    normReprStep f a b = a ∨
      ∃ q, (q = '"' ∨ q = '\'') ∧ unquote? q a = some (normReprStep f a b) ∧
        checkMatch f (normReprStep f a b) b = true := by
  rcases normReprStep_spec f a b with ⟨_, h⟩ | ⟨q, a0, hq, hu, hm, h⟩ | ⟨_, h, _⟩
  · exact .inl h
  · rw [h]; exact .inr ⟨q, hq, hu, hm⟩
  · exact .inl h

theorem normReprStep_of_not_found (f : Flags) {a b : Str}
    (h : checkMatch f (normReprStep f a b) b = false) : normReprStep f a b = a := by
  rcases normReprStep_cases f a b with h' | ⟨_, _, _, h'⟩
  · exact h'
  · rw [h] at h'; cases h'

theorem normReprStep_rel (f : Flags) (a b : Str) : UnqRel true a (normReprStep f a b) := by
  rcases normReprStep_cases f a b with h | ⟨q, hq, hu, _⟩
  · rw [h]; exact .same _
  · exact .unq q _ _ rfl hq hu

/-- for the second call of `normalize`, which swaps the roles; with ELLIPSIS on `b` need not
    match `a` -/
theorem normReprStep_of_rev_match (f : Flags) {a b : Str} (h : checkMatch f a b = true) :
    normReprStep f b a = b := by
  rcases normReprStep_cases f b a with h' | ⟨q, hq, hu, hm⟩
  · exact h'
  · rw [unquote?_no_rev_match f hq h hu] at hm; cases hm

theorem normReprStep_finds (f : Flags) {a b a0 : Str} {q : Char} (hq : q = '"' ∨ q = '\'')
    (hu : unquote? q a = some a0) (hm : checkMatch f a0 b = true) :
    checkMatch f (normReprStep f a b) b = true := by
  rcases normReprStep_spec f a b with ⟨hm0, h⟩ | ⟨_, _, _, _, hm1, h⟩ | ⟨_, _, hall⟩
  · rw [h]; exact hm0
  · rw [h]; exact hm1
  · rw [hall q a0 hq hu] at hm; cases hm

theorem normReprStep_unquotes (f : Flags) {a b : Str} {q : Char} (hq : q = '"' ∨ q = '\'')
    (hn : checkMatch f b a = false) (hu : unquote? q b = some a) : normReprStep f b a = a := by
  rcases normReprStep_spec f b a with ⟨hm0, _⟩ | ⟨q', a1, hq', hu', _, h⟩ | ⟨_, _, hall⟩
  · rw [hn] at hm0; cases hm0
  · -- the pair of quotes is unique
    rw [h]
    rcases hq with rfl | rfl <;> rcases hq' with rfl | rfl
    · rw [hu] at hu'; exact (Option.some.inj hu').symm
    · exact (unquote?_dquote_squote_absurd hu hu').elim
    · exact (unquote?_dquote_squote_absurd hu' hu).elim
    · rw [hu] at hu'; exact (Option.some.inj hu').symm
  · have := hall q a hq hu
    rw [checkMatch_refl] at this; cases this

theorem normalize_rel (f : Flags) (g w : Str) :
    UnqRel f.normRepr (norm1 f false g) (normalize f g w).1 ∧
      UnqRel f.normRepr (norm1 f true w) (normalize f g w).2 := by
  unfold normalize
  cases f.normRepr
  · exact ⟨.same _, .same _⟩
  · exact ⟨normReprStep_rel f _ _, normReprStep_rel f _ _⟩

theorem eq_of_checkMatch_no_wildcard {f : Flags} {a b : Str}
    (hW : f.ellipsis = false ∨ contains dots b = false) (h : checkMatch f a b = true) : a = b := by
  simp only [checkMatch, Bool.or_eq_true, beq_iff_eq, Bool.and_eq_true] at h
  rcases h with h | ⟨he, h⟩
  · exact h
  · rcases hW with hE | hD
    · rw [hE] at he; cases he
    · exact (ellipsisMatch_no_dots hD).mp h

theorem eq_of_checkMatch_ellipsis_off {f : Flags} (h0 : f.ellipsis = false) {a b : Str}
    (h : checkMatch f a b = true) : a = b := eq_of_checkMatch_no_wildcard (.inl h0) h

/-- what `check_output` computes on the two per-string normal forms under NORMALIZE_REPR -/
def nrCore (f : Flags) (a b : Str) : Bool :=
  checkMatch f (normReprStep f a b) (normReprStep f b (normReprStep f a b))

theorem nrCore_of_first_match (f : Flags) (a b : Str)
    (h : checkMatch f (normReprStep f a b) b = true) : nrCore f a b = true := by
  unfold nrCore
  rw [normReprStep_of_rev_match f h]; exact h

theorem nrCore_of_match (f : Flags) {a b : Str} (h : checkMatch f a b = true) :
    nrCore f a b = true :=
  nrCore_of_first_match f a b (by rw [normReprStep_of_match f h]; exact h)

/-- ELLIPSIS monotonicity of the quote step fails only if the want is a quoted copy of the got
    that the got, read as a pattern, matches: then the second call keeps the quotes (`hguard`) -/
theorem nrCore_mono_ellipsis (f0 f1 : Flags) (h0 : f0.ellipsis = false) (a b : Str)
    (hguard : ∀ q, (q = '"' ∨ q = '\'') → unquote? q b = some a → ellipsisMatch b a = false)
    (h : nrCore f0 a b = true) : nrCore f1 a b = true := by
  unfold nrCore at h ⊢
  rcases normReprStep_cases f0 a b with ha | ⟨q, hq, hu, hm⟩
  · rw [ha] at h
    rcases normReprStep_cases f0 b a with hb | ⟨q, hq, hu, hm⟩
    · rw [hb] at h
      obtain rfl : a = b := eq_of_checkMatch_ellipsis_off h0 h
      exact nrCore_of_match f1 (checkMatch_refl f1 a)
    · rw [eq_of_checkMatch_ellipsis_off h0 hm] at hu
      cases hp : checkMatch f1 (normReprStep f1 a b) b with
      | true => exact nrCore_of_first_match f1 a b hp
      | false =>
        -- the got is left alone, the quoted want does not match it: the want's quotes go
        have hba : checkMatch f1 b a = false := by
          simp [checkMatch, unquote?_ne hu, hguard q hq hu]
        rw [normReprStep_of_not_found f1 hp, normReprStep_unquotes f1 hq hba hu]
        exact checkMatch_refl f1 a
  · rw [eq_of_checkMatch_ellipsis_off h0 hm] at hu
    exact nrCore_of_first_match f1 a b (normReprStep_finds f1 hq hu (checkMatch_refl f1 b))

/-- the guard of `nrCore_mono_ellipsis` is exact -/
theorem nrCore_ellipsis_fail (f0 f1 : Flags) (h0 : f0.ellipsis = false) (h1 : f1.ellipsis = true)
    (a b : Str) {q : Char} (hq : q = '"' ∨ q = '\'') (hu : unquote? q b = some a)
    (hm : ellipsisMatch b a = true)
    (hn : checkMatch f1 (normReprStep f1 a b) b = false) :
    nrCore f0 a b = true ∧ nrCore f1 a b = false := by
  -- with ELLIPSIS off the quoted want does not match the got and is unquoted to it; with ELLIPSIS on
  -- it matches the got as a pattern and keeps its quotes, which the got does not have
  have ha1 : normReprStep f1 a b = a := normReprStep_of_not_found f1 hn
  have ha0 : normReprStep f0 a b = a := by
    rcases normReprStep_cases f0 a b with h' | ⟨q', hq', hu', hm'⟩
    · exact h'
    · rw [eq_of_checkMatch_ellipsis_off h0 hm'] at hu'
      rw [normReprStep_finds f1 hq' hu' (checkMatch_refl f1 b)] at hn; cases hn
  unfold nrCore
  constructor
  · rw [ha0]
    have hba : checkMatch f0 b a = false := by simp [checkMatch, h0, unquote?_ne hu]
    rw [normReprStep_unquotes f0 hq hba hu]
    exact checkMatch_refl f0 a
  · rw [ha1]
    have hba : checkMatch f1 b a = true := by simp [checkMatch, h1, hm]
    rw [normReprStep_of_match f1 hba]
    rw [ha1] at hn; exact hn

theorem checkOutput_nr_on (f : Flags) (hnr : f.normRepr = true) (g w : Str) :
    checkOutput f g w = true ↔
      w = [] ∨ g = w ∨ nrCore f (norm1 f false g) (norm1 f true w) = true := by
  rw [checkOutput_iff]; simp [normalize, hnr, nrCore]

end Xdoc
