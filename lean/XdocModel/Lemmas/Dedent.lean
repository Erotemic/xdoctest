import XdocModel.Py.Dedent
import XdocModel.Lemmas.Str
/-!
# `textwrap.dedent` removes one margin from every line

`dedentLines ls = ls.map (unmargin (marginOf ls))`, where `marginOf ls` is the greatest common prefix of the
leading blanks of the lines that are not whitespace-only. (Namespace `Google` from `unmargin` on: that is where
`unmargin` is used in statements.)
-/
namespace Xdoc.Py

theorem prefix_commonPrefix_iff {α : Type} [DecidableEq α] {p a b : List α} :
    p <+: commonPrefix a b ↔ p <+: a ∧ p <+: b := by
  induction a generalizing p b with
  | nil => cases b <;> simp +contextual [commonPrefix]
  | cons x a ih =>
    cases b with
    | nil => simp +contextual [commonPrefix]
    | cons y b =>
      cases p with
      | nil => simp
      | cons c p =>
        by_cases h : x = y
        · subst h; simp only [commonPrefix, if_true, List.cons_prefix_cons, ih]
          exact ⟨fun ⟨e, ha, hb⟩ => ⟨⟨e, ha⟩, e, hb⟩, fun ⟨⟨e, ha⟩, _, hb⟩ => ⟨e, ha, hb⟩⟩
        · simp only [commonPrefix, if_neg h, List.cons_prefix_cons, List.prefix_nil, reduceCtorEq, false_iff]
          rintro ⟨⟨rfl, _⟩, rfl, _⟩; exact h rfl

theorem prefix_foldl_commonPrefix_iff {α : Type} [DecidableEq α] {p i : List α} {is : List (List α)} :
    p <+: is.foldl commonPrefix i ↔ ∀ x ∈ i :: is, p <+: x := by
  induction is generalizing i with
  | nil => simp
  | cons j js ih => simp [ih, prefix_commonPrefix_iff, and_assoc]

end Xdoc.Py

namespace Xdoc.Google
open Xdoc Py

def unmargin (mg : Str) (l : Str) : Str := if l.all isBlank then [] else l.drop mg.length

def indentsOf (ls : List Str) : List Str :=
  ls.filterMap fun l => if l.all isBlank then none else some (l.takeWhile isBlank)

/-- the margin `textwrap.dedent` removes -/
def marginOf (ls : List Str) : Str :=
  match indentsOf ls with
  | [] => []
  | i :: is => is.foldl commonPrefix i

theorem mem_indentsOf {l : Str} {ls : List Str} (hl : l ∈ ls) (hb : l.all isBlank = false) :
    l.takeWhile isBlank ∈ indentsOf ls :=
  List.mem_filterMap.mpr ⟨l, hl, by rw [hb]; rfl⟩

theorem unmargin_suffix (m l : Str) : unmargin m l <:+ l := by
  unfold unmargin; split
  · exact List.nil_suffix
  · exact List.drop_suffix _ _

theorem unmargin_of_blank (m : Str) {l : Str} (h : l.all isBlank = true) : unmargin m l = [] := by
  rw [unmargin, if_pos h]

theorem unmargin_nil {l : Str} (h : l.all isBlank = false) : unmargin [] l = l := by
  rw [unmargin, h, if_neg Bool.false_ne_true]; rfl

theorem unmargin_append {m t : Str} (h : (m ++ t).all isBlank = false) : unmargin m (m ++ t) = t := by
  rw [unmargin, h, if_neg Bool.false_ne_true, List.drop_left]

theorem unmargin_unmargin_nil (mg l : Str) : unmargin mg (unmargin [] l) = unmargin mg l := by
  unfold unmargin
  by_cases h : l.all isBlank = true
  · simp [h]
  · simp [h]

theorem prefix_marginOf_iff {p : Str} {ls : List Str} (hne : indentsOf ls ≠ []) :
    p <+: marginOf ls ↔ ∀ l ∈ ls, l.all isBlank = false → p <+: l.takeWhile isBlank := by
  unfold marginOf
  split
  · rename_i e; exact absurd e hne
  · rename_i i is e
    rw [prefix_foldl_commonPrefix_iff, ← e]
    constructor
    · exact fun h l hl hb => h _ (mem_indentsOf hl hb)
    · intro h x hx
      obtain ⟨l, hl, hx⟩ := List.mem_filterMap.mp hx
      split at hx
      · cases hx
      · cases hx; exact h l hl (Bool.eq_false_iff.mpr ‹_›)

theorem marginOf_eq {mg : Str} {ls : List Str}
    (hall : ∀ l ∈ ls, l.all isBlank = false → mg <+: l.takeWhile isBlank)
    (hwit : ∃ l ∈ ls, l.all isBlank = false ∧ l.takeWhile isBlank = mg) : marginOf ls = mg := by
  obtain ⟨w, hw, hwb, rfl⟩ := hwit
  have hne : indentsOf ls ≠ [] := List.ne_nil_of_mem (mem_indentsOf hw hwb)
  exact ((prefix_marginOf_iff hne).mp (List.prefix_refl _) w hw hwb).eq_of_length_le
    ((prefix_marginOf_iff hne).mpr hall).length_le

/-! A line that starts with a margin `mg` of blanks and goes on with `t`, in the terms of the hypotheses of `marginOf_eq`. -/

theorem prefix_takeWhile_margin {mg : Str} (t : Str) (h : mg.all isBlank = true) :
    mg <+: (mg ++ t).takeWhile isBlank := by
  rw [List.takeWhile_append_of_pos (List.all_eq_true.mp h)]; exact List.prefix_append _ _

theorem takeWhile_margin_cons {mg : Str} {c : Char} (r : Str) (h : mg.all isBlank = true) (hc : isBlank c = false) :
    (mg ++ c :: r).takeWhile isBlank = mg :=
  takeWhile_append_cons_of_neg r (List.all_eq_true.mp h) hc

theorem not_blank_of_margin {mg t : Str} (hmg : mg.all isBlank = true) (ht : t.all isBlank = false) :
    (mg ++ t).all isBlank = false := by rw [List.all_append, hmg, ht]; rfl

theorem dedentLines_eq_map (ls : List Str) : dedentLines ls = ls.map (unmargin (marginOf ls)) := by
  -- the code empties the whitespace-only lines first and collects the leading blanks of the non-empty ones in a second
  -- pass: that list is `indentsOf ls`; after that both branches are a `map` over `ls`, compared line by line
  have hI : ((ls.map fun l => if l.all isBlank then [] else l).filterMap
      fun l => if l.isEmpty then none else some (l.takeWhile isBlank)) = indentsOf ls := by
    rw [List.filterMap_map]
    congr 1; funext l
    simp only [Function.comp]
    split
    · rfl
    · cases l with
      | nil => contradiction
      | cons c l => rfl
  unfold dedentLines
  simp only [hI, List.map_map]
  cases e : indentsOf ls with
  | nil =>
    refine List.map_congr_left fun l hl => ?_
    cases hb : l.all isBlank with
    | true => rw [unmargin_of_blank _ hb, if_pos rfl]
    | false => have := mem_indentsOf hl hb; rw [e] at this; cases this
  | cons i is =>
    refine List.map_congr_left fun l hl => ?_
    have hm : marginOf ls = is.foldl commonPrefix i := by rw [marginOf, e]
    rw [← hm, Function.comp]
    cases hb : l.all isBlank with
    | true => rw [unmargin_of_blank _ hb, if_pos rfl]; cases marginOf ls <;> rfl
    | false =>
      obtain ⟨t, rfl⟩ : marginOf ls <+: l :=
        ((prefix_marginOf_iff (by rw [e]; exact List.cons_ne_nil _ _)).mp (List.prefix_refl _) l hl hb).trans
          (List.takeWhile_prefix _)
      rw [if_neg Bool.false_ne_true, dropPrefix?_append, unmargin_append hb]; rfl

theorem dedentLines_length (ls : List Str) : (dedentLines ls).length = ls.length := by
  rw [dedentLines_eq_map, List.length_map]

theorem dedentLines_suffix (ls : List Str) (i : Nat) (l' : Str) (h : (dedentLines ls)[i]? = some l') :
    ∃ l, ls[i]? = some l ∧ l' <:+ l := by
  rw [dedentLines_eq_map, List.getElem?_map, Option.map_eq_some_iff] at h
  obtain ⟨l, hl, rfl⟩ := h
  exact ⟨l, hl, unmargin_suffix _ l⟩

end Xdoc.Google
