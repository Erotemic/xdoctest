import XdocModel.World
import XdocModel.Lemmas.Example
/-!
# The run loop seen from one part later

A doctest and its twin with one more (skipped) part in front: the twin's loop is the doctest's loop with
every recorded part index one higher (`shiftState`), its execution oracle the doctest's asked one index
later. An instance of `runLoop_map`, like `runLoop_raise_ret` in
`Lemmas/Plugin.lean`; there the two loops differ in `on_error` and the states agree, here the
configurations agree (up to what the loop does not read) and the states differ by the shift.
-/
namespace Xdoc.Compose2
open Xdoc Py

section Simulation
variable {Env : Type}

def shiftFailure (f : Failure) : Failure := { f with partIdx := f.partIdx + 1 }

/-- the same observable state, seen from a loop that ran one skipped part before -/
def shiftState (s : RunState Env) : RunState Env :=
  { env := s.env, rs := s.rs, unmatched := s.unmatched, skipped := 0 :: s.skipped.map (· + 1),
    executed := s.executed.map (· + 1), logged := s.logged.map (fun x => (x.1 + 1, x.2)),
    failure := s.failure.map shiftFailure, didImport := s.didImport }

theorem applyAct_shift (cfg cfg' : RunCfg) (hoe : cfg'.onError = cfg.onError) (s : RunState Env)
    (i : Nat) (env' : Env) (a : Act) :
    applyAct cfg' (shiftState s) (i + 1) env' a = (applyAct cfg s i env' a).map shiftState fun _ e => e := by
  cases a with
  | skip => simp [applyAct, Step.map, shiftState]
  | ran out u => cases u <;> simp [applyAct, Step.map, shiftState]
  | halt ex out fl =>
    rcases fl with _ | ⟨k, tb⟩ <;> cases ex <;>
      simp [applyAct, Step.map, shiftState, endOf, hoe, shiftFailure]
  | escape out => simp [applyAct, Step.map, shiftState]

theorem stepPart_shift (sat : Str → Option Bool) (sem semT : Env → Nat → RunPart → ExecResult × Env)
    (hsem : ∀ env i p, semT env (i + 1) p = sem env i p) (cfg cfg' : RunCfg)
    (hoe : cfg'.onError = cfg.onError) (himp : cfg'.importOk = cfg.importOk)
    (s : RunState Env) (i : Nat) (p : RunPart) :
    stepPart sat semT cfg' (shiftState s) (i + 1) p = (stepPart sat sem cfg s i p).map shiftState fun _ e => e := by
  have hpre : preStage sat cfg' (shiftState s).rs (shiftState s).didImport p =
      preStage sat cfg s.rs s.didImport p := by
    simp [preStage, shiftState, himp]
  unfold stepPart
  rw [hpre]
  cases preStage sat cfg s.rs s.didImport p with
  | dirError => exact applyAct_shift cfg cfg' hoe s i s.env _
  | skip rs => exact applyAct_shift cfg cfg' hoe { s with rs := rs } i s.env _
  | importFail rs => exact applyAct_shift cfg cfg' hoe { s with rs := rs } i s.env _
  | exec rs =>
    have he : (shiftState s).env = s.env := rfl
    simp only [he, hsem]
    exact applyAct_shift cfg cfg' hoe { s with rs := rs, didImport := true } i _ _

theorem runLoop_shift (sat : Str → Option Bool) (sem semT : Env → Nat → RunPart → ExecResult × Env)
    (hsem : ∀ env i p, semT env (i + 1) p = sem env i p) (cfg cfg' : RunCfg)
    (hoe : cfg'.onError = cfg.onError) (himp : cfg'.importOk = cfg.importOk)
    (ps : List RunPart) (s : RunState Env) (i : Nat) :
    runLoop sat semT cfg' (shiftState s) (i + 1) ps =
      (shiftState (runLoop sat sem cfg s i ps).1, (runLoop sat sem cfg s i ps).2) := by
  simpa using runLoop_map sat sem cfg shiftState (fun _ e => e) (fun _ => True) 1
    (fun s i p _ => stepPart_shift sat sem semT hsem cfg cfg' hoe himp s i p) (fun _ _ _ _ _ _ => trivial) ps s i trivial

theorem summaryOf_shift (n : Nat) (s : RunState Env) :
    summaryOf (n + 1) (shiftState s) = summaryOf n s := by
  simp [summaryOf, shiftState]

end Simulation

theorem endingOf_shift (pm : Bool) (n : Nat) (s : RunState NS) (e : Option RunEnd) :
    endingOf pm (n + 1) (shiftState s) e = endingOf pm n s e := by
  cases e <;> simp [endingOf, shiftState]

theorem nsAfter_shift (ns : NS) (s : RunState NS) (e : RunEnd) :
    nsAfter ns (shiftState s) e = nsAfter ns s e := by
  have hf : isImportFailure (s.failure.map shiftFailure) = isImportFailure s.failure := by
    cases s.failure <;> simp [isImportFailure, shiftFailure]
  cases e <;> simp only [nsAfter, shiftState, hf] <;> rfl

end Xdoc.Compose2
