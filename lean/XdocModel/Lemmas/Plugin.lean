import XdocModel.Plugin
import XdocModel.Lemmas.Example
/-! The run loop does not depend on `on_error` / `mode` except for how a recorded failure leaves
    `run` (returned summary vs re-raised): the pytest run of a doctest as a function of its native run
    (`pytestRun_of_nativeRun`). -/
namespace Xdoc
open Py

variable {Env : Type}

/-- how the ending under `on_error='raise'` is obtained from the one under `'return'` -/
def raisedEnd (s : RunState Env) : RunEnd → RunEnd
  | .returned => match s.failure with
    | some fl => .raised fl.kind
    | none => .returned
  | e => e

section RaiseRet
variable (sat : Str → Option Bool) (sem : Env → Nat → RunPart → ExecResult × Env) {cfgR cfgN : RunCfg}

theorem applyAct_raise_ret (hR : cfgR.onError = .raise) (hN : cfgN.onError = .ret)
    (s : RunState Env) (i : Nat) (env' : Env) (a : Act) (hs : s.failure = none) :
    applyAct cfgR s i env' a = (applyAct cfgN s i env' a).map id raisedEnd := by
  cases a with
  | skip => rfl
  | ran out u => rfl
  | halt ex out fl =>
    cases fl with
    | none =>
      cases ex <;> simp [applyAct, Step.map, raisedEnd, hs]
    | some kt =>
      obtain ⟨k, tb⟩ := kt
      cases ex <;> simp [applyAct, Step.map, raisedEnd, endOf, hR, hN]
  | escape out => rfl

theorem stepPart_raise_ret (hR : cfgR.onError = .raise) (hN : cfgN.onError = .ret)
    (himp : cfgR.importOk = cfgN.importOk) (s : RunState Env) (i : Nat) (p : RunPart) (hs : s.failure = none) :
    stepPart sat sem cfgR s i p = (stepPart sat sem cfgN s i p).map id raisedEnd := by
  unfold stepPart
  rw [show preStage sat cfgR s.rs s.didImport p = preStage sat cfgN s.rs s.didImport p by simp only [preStage, himp]]
  split <;> exact applyAct_raise_ret hR hN _ i _ _ hs

theorem runLoop_raise_ret (hR : cfgR.onError = .raise) (hN : cfgN.onError = .ret)
    (himp : cfgR.importOk = cfgN.importOk) (ps : List RunPart) (s : RunState Env) (i : Nat) (hs : s.failure = none) :
    runLoop sat sem cfgR s i ps =
      ((runLoop sat sem cfgN s i ps).1, (runLoop sat sem cfgN s i ps).2.map (raisedEnd (runLoop sat sem cfgN s i ps).1)) :=
  runLoop_map sat sem cfgN id raisedEnd (·.failure = none) 0 (fun s i p => stepPart_raise_ret sat sem hR hN himp s i p)
    (fun _ _ _ _ hs hst => (stepPart_continue hst).failure ▸ hs) ps s i hs

end RaiseRet

def LoggedOk (s : RunState Env) : Prop := s.logged.map Prod.fst = s.executed

theorem runLoop_logged (sat : Str → Option Bool) (sem : Env → Nat → RunPart → ExecResult × Env)
    (cfg : RunCfg) (ps : List RunPart) (s : RunState Env) (h : LoggedOk s) :
    LoggedOk (runLoop sat sem cfg s 0 ps).1 := by
  refine runLoop_preserves sat sem cfg ps ?_ s h
  intro s i p _ h
  have sp := stepPart_spec sat sem cfg s i p
  generalize stepPart sat sem cfg s i p = st at sp
  unfold LoggedOk at h ⊢
  cases sp <;> simp [Step.state, ranState, h]

section Pytest
variable (sat : Str → Option Bool) (sem : Env → Nat → RunPart → ExecResult × Env)
  (defaults : List (String × Bool)) (importOk : Bool) (env0 : Env) (parts : List RunPart)

theorem pytestRun_of_nativeRun :
    let oN := run sat sem (nativeCfg defaults importOk) env0 parts
    let oP := run sat sem (pytestCfg defaults importOk) env0 parts
    oP.state = oN.state ∧
    (oN.ending = .escaped ∧ oP.ending = .escaped ∨
     oN.ending = .returned ∧ oP.ending =
        match oN.state.failure with
        | some fl => .raised fl.kind
        | none => if oN.summary.skipped then .pytestSkip else .returned) := by
  intro oN oP
  have r := run_result sat sem (nativeCfg defaults importOk) env0 parts
  simp only [oN, oP, run_eq]
  simp only [show (pytestCfg defaults importOk).defaults = defaults from rfl,
    show (nativeCfg defaults importOk).defaults = defaults from rfl] at r ⊢
  rw [runLoop_raise_ret sat sem (cfgR := pytestCfg defaults importOk) (cfgN := nativeCfg defaults importOk)
    (hR := rfl) (hN := rfl) (himp := rfl) parts { env := env0, rs := RState.init defaults } 0 rfl]
  generalize runLoop sat sem (nativeCfg defaults importOk) { env := env0, rs := RState.init defaults } 0 parts = rN
    at r ⊢
  obtain ⟨s, e⟩ := rN
  refine ⟨rfl, ?_⟩
  cases e with
  | none =>
    -- the loop ran to the end: `summary.skipped` is the all-skipped test by which `runEnding` chooses `pytest.skip()`
    have hf : s.failure = none := (r.complete rfl).1
    simp [runEnding, nativeCfg, pytestCfg, summaryOf, hf]
  | some e =>
    have hne := Nat.ne_of_lt (r.stopped rfl)
    rcases r.ending e rfl with ⟨rfl, _⟩ | ⟨rfl, hf⟩ | ⟨fl, _, hbad, _⟩
    · -- the loop stopped and the native run returns: the stopping part was not skipped, so `summary.skipped` is false
      cases hf : s.failure <;> simp [runEnding, raisedEnd, hf, summaryOf, hne]
    · exact .inl ⟨rfl, rfl⟩
    · cases hbad

end Pytest

theorem anythingRan_run (sat : Str → Option Bool) (sem : Env → Nat → RunPart → ExecResult × Env)
    (cfg : RunCfg) (env0 : Env) (parts : List RunPart) :
    anythingRan (run sat sem cfg env0 parts) = !(run sat sem cfg env0 parts).state.executed.isEmpty := by
  have hl := runLoop_logged sat sem cfg parts { env := env0, rs := RState.init cfg.defaults } rfl
  rw [anythingRan, run_state, ← hl]
  cases (runLoop sat sem cfg { env := env0, rs := RState.init cfg.defaults } 0 parts).1.logged <;> rfl

theorem pytestVerdict_eq_failed_iff (docsrc : Str) (o : RunOutcome Env) :
    pytestVerdict docsrc o = .failed ↔ isDisabled true docsrc = false ∧ pytestVerdictOfRun o = .failed := by
  unfold pytestVerdict
  cases isDisabled true docsrc <;> simp

theorem pytestExit_ne_zero_iff {vs : List Verdict} (h : vs ≠ []) : pytestExit vs ≠ 0 ↔ .failed ∈ vs := by
  cases vs with
  | nil => exact absurd rfl h
  | cons v vs =>
    rw [pytestExit, ← List.contains_iff_mem]
    cases (v :: vs).contains .failed <;> simp

end Xdoc
