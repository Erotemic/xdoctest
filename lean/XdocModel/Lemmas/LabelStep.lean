import XdocModel.Parser
import XdocModel.Lemmas.ExceptFold
/-!
# The labeller step by branch

`labelStep` is one large definition. It is compared ONCE (`labelStep_eq_spec`) with `labelStepSpec`, in
which the decisions of the step have names (which label, which indentation, is the prefix a prompt) and
every branch is one leaf that either emits a source line (`LabelState.emitSrc`) or a plain one; after
that a proof about the labeller uses the per-branch equations or the eliminator `labelStep_ok_cases`
and does not unfold `labelStep`.
-/
namespace Xdoc.Parser
open Xdoc Py Lexer

abbrev LLine := Label × Str

/-- the labeller's own test on a line of a pending statement -/
def knownPrefix (l : Str) : Bool :=
  strip (l.take 4) == ps1 || strip (l.take 4) == ps2 || (strip (l.take 4)).isEmpty

/-- the `assert` of `_complete_source` on the first line of a statement -/
def promptPrefix (l : Str) : Bool :=
  strip (l.take 4) == ps1 || strip (l.take 4) == ps2

def contLabel (c : Label) (l : Str) : Label := if hasPrefix l [ps2] = true then .dcnt else c

def Label.isSrc : Label → Bool
  | .dsrc | .dcnt => true
  | _ => false

theorem Label.isSrc_eq (l : Label) : l.isSrc = (l == .dsrc || l == .dcnt) := by cases l <;> rfl

theorem contLabel_isSrc {c : Label} (l : Str) (h : c.isSrc = true) : (contLabel c l).isSrc = true := by
  unfold contLabel; split
  · rfl
  · exact h

/-- `curr_state` as the transition table gives it (no statement pending) -/
def nextLabel (prev : Label) (sind : Nat) (line : Str) : Label :=
  match prev with
  | .text => if hasPrefix (strip line) [ps1] then .dsrc else .text
  | .want =>
    if (strip line).isEmpty then .text
    else if hasPrefix (strip line) [ps1] then .dsrc
    else if indentOf line < sind then .text
    else .want
  | _ =>
    if (strip line).isEmpty || indentOf line < sind then .text
    else if hasPrefix (line.drop sind) [ps1, ps2] then
      (if strip line == ps2 then (if prev == .dcnt then .dcnt else .want)
       else if hasPrefix (line.drop sind) [ps2] then .dcnt else .dsrc)
    else .want

theorem nextLabel_src {prev : Label} (hp : prev.isSrc = true) (sind : Nat) (line : Str) :
    nextLabel prev sind line =
      if (strip line).isEmpty || indentOf line < sind then .text
      else if hasPrefix (line.drop sind) [ps1, ps2] then
        (if strip line == ps2 then (if prev == .dcnt then .dcnt else .want)
         else if hasPrefix (line.drop sind) [ps2] then .dcnt else .dsrc)
      else .want :=
  match prev, hp with
  | .dsrc, _ => rfl
  | .dcnt, _ => rfl

/-- `state_indent` after the transition -/
def nextIndent (prev cur : Label) (sind li : Nat) : Nat :=
  if prev != cur then
    (if cur == .text then 0 else if cur == .dsrc || cur == .dcnt then li else sind)
  else sind

theorem nextIndent_want (prev : Label) (sind li : Nat) : nextIndent prev .want sind li = sind := by
  cases prev <;> rfl

def LabelState.emitSrc (st : LabelState) (sind : Nat) (lab : Label) (outline : Str)
    (parts : List Str) : LabelState :=
  if isBalanced parts then
    { prev := lab, sind := sind, pending := none, curLab := lab, out := st.out ++ [(lab, outline)] }
  else
    { prev := st.prev, sind := sind, pending := some parts, curLab := lab,
      out := st.out ++ [(lab, outline)] }

section emitSrc
variable (st : LabelState) (sind : Nat) (lab : Label) (o : Str) (parts : List Str)

@[simp] theorem LabelState.emitSrc_out : (st.emitSrc sind lab o parts).out = st.out ++ [(lab, o)] := by
  unfold LabelState.emitSrc; split <;> rfl

@[simp] theorem LabelState.emitSrc_curLab : (st.emitSrc sind lab o parts).curLab = lab := by
  unfold LabelState.emitSrc; split <;> rfl

theorem LabelState.emitSrc_balanced (hb : isBalanced parts = true) :
    st.emitSrc sind lab o parts =
      { prev := lab, sind := sind, pending := none, curLab := lab, out := st.out ++ [(lab, o)] } := by
  unfold LabelState.emitSrc; rw [if_pos hb]

theorem LabelState.emitSrc_unbalanced (hb : isBalanced parts = false) :
    st.emitSrc sind lab o parts =
      { prev := st.prev, sind := sind, pending := some parts, curLab := lab, out := st.out ++ [(lab, o)] } := by
  unfold LabelState.emitSrc; rw [if_neg (by rw [hb]; exact Bool.false_ne_true)]

theorem LabelState.emitSrc_done (h : (st.emitSrc sind lab o parts).pending = none) :
    (st.emitSrc sind lab o parts).prev = lab := by
  cases hb : isBalanced parts
  · rw [st.emitSrc_unbalanced _ _ _ _ hb] at h; cases h
  · rw [st.emitSrc_balanced _ _ _ _ hb]

theorem LabelState.emitSrc_pending {p : List Str} (h : (st.emitSrc sind lab o parts).pending = some p) :
    p = parts := by
  cases hb : isBalanced parts
  · rw [st.emitSrc_unbalanced _ _ _ _ hb] at h; cases h; rfl
  · rw [st.emitSrc_balanced _ _ _ _ hb] at h; cases h

end emitSrc

def labelStepSpec (st : LabelState) (line : Str) : Except ParseError LabelState :=
  match st.pending with
  | some parts =>
    let norm := line.drop st.sind
    if knownPrefix norm then
      .ok (st.emitSrc st.sind (contLabel st.curLab norm) line (parts ++ [norm.drop 4]))
    else if parts.any containsTriple then
      .ok (st.emitSrc st.sind .dcnt (line.take st.sind ++ "... ".toList ++ norm)
        (parts ++ ["... ".toList ++ norm]))
    else .error .syntax
  | none =>
    let cur := nextLabel st.prev st.sind line
    let sind := nextIndent st.prev cur st.sind (indentOf line)
    if cur.isSrc then
      if promptPrefix (line.drop sind) then
        .ok (st.emitSrc sind (contLabel cur (line.drop sind)) line [(line.drop sind).drop 4])
      else .error .assertion
    else .ok { st with sind := sind, prev := cur, out := st.out ++ [(cur, line)] }

theorem labelStep_eq_spec (st : LabelState) (line : Str) : labelStep st line = labelStepSpec st line := by
  unfold labelStep labelStepSpec LabelState.emitSrc
  -- the `let`s stay (`-zeta`, `extract_lets`): substituted, the `match st.prev` block of `cur` is copied
  -- into every use of `cur` and `sind` and every later step pays for a goal of several hundred lines
  cases hp : st.pending with
  | some parts =>
    dsimp -zeta only
    extract_lets norm pre known
    rw [apply_ite Except.ok, apply_ite Except.ok]
    have hk : knownPrefix norm = known := rfl
    rw [hk]
    clear_value known
    cases known
    · cases parts.any containsTriple
      · rfl
      · rfl
    · rfl
  | none =>
    dsimp -zeta only
    extract_lets li stripL cur sind norm pre lab st1 ps cur' sind'
    have hs : sind' = sind := rfl
    have hc : cur' = cur := rfl
    clear_value sind'; subst hs
    clear_value cur'; subst hc
    clear_value cur sind
    rw [apply_ite Except.ok, Label.isSrc_eq]
    have hk : promptPrefix norm = (pre == ps1 || pre == ps2) := rfl
    rw [hk]
    cases (cur == Label.dsrc || cur == Label.dcnt)
    · rfl
    · cases (pre == ps1 || pre == ps2)
      · rfl
      · rfl

theorem labelStep_cont {st : LabelState} {parts : List Str} {line : Str} (hp : st.pending = some parts)
    (hk : knownPrefix (line.drop st.sind) = true) :
    labelStep st line = .ok (st.emitSrc st.sind (contLabel st.curLab (line.drop st.sind)) line
      (parts ++ [(line.drop st.sind).drop 4])) := by
  simp only [labelStep_eq_spec, labelStepSpec, hp, hk, if_true]

theorem labelStep_first {st : LabelState} {line : Str} {cur : Label} {sind : Nat} (hp : st.pending = none)
    (hcur : nextLabel st.prev st.sind line = cur) (hsrc : cur.isSrc = true)
    (hsind : nextIndent st.prev cur st.sind (indentOf line) = sind)
    (hk : promptPrefix (line.drop sind) = true) :
    labelStep st line =
      .ok (st.emitSrc sind (contLabel cur (line.drop sind)) line [(line.drop sind).drop 4]) := by
  simp only [labelStep_eq_spec, labelStepSpec, hp, hcur, hsrc, hsind, hk, if_true]

theorem labelStep_plain {st : LabelState} {line : Str} {cur : Label} (hp : st.pending = none)
    (hcur : nextLabel st.prev st.sind line = cur) (hsrc : cur.isSrc = false) :
    labelStep st line = .ok { st with sind := nextIndent st.prev cur st.sind (indentOf line), prev := cur,
                                      out := st.out ++ [(cur, line)] } := by
  simp only [labelStep_eq_spec, labelStepSpec, hp, hcur, hsrc, Bool.false_eq_true, if_false]

/-- the two errors a step can raise: bad indentation inside a statement (SyntaxError), an unexpected
    prefix on its first line (AssertionError) -/
theorem labelStep_error {st : LabelState} {line : Str} {e : ParseError} (h : labelStep st line = .error e) :
    e = .syntax ∨ e = .assertion := by
  simp only [labelStep_eq_spec, labelStepSpec] at h
  split at h
  · split at h
    · cases h
    · split at h
      · cases h
      · cases h; exact Or.inl rfl
  · split at h
    · split at h
      · cases h
      · cases h; exact Or.inr rfl
    · cases h

/-- The cases `first` and `plain` do not say which `cur`/`sind` the step computed (`nextLabel`,
    `nextIndent`, the `promptPrefix` test): a proof that needs them uses `labelStep_first` /
    `labelStep_plain`. -/
@[elab_as_elim]
theorem labelStep_ok_cases {motive : LabelState → Prop} {st st' : LabelState} {line : Str}
    (h : labelStep st line = .ok st')
    (cont : ∀ parts, st.pending = some parts →
      motive (st.emitSrc st.sind (contLabel st.curLab (line.drop st.sind)) line
        (parts ++ [(line.drop st.sind).drop 4])))
    (hack : ∀ parts, st.pending = some parts → parts.any containsTriple = true →
      motive (st.emitSrc st.sind .dcnt (line.take st.sind ++ "... ".toList ++ line.drop st.sind)
        (parts ++ ["... ".toList ++ line.drop st.sind])))
    (first : st.pending = none → ∀ cur sind, cur.isSrc = true →
      motive (st.emitSrc sind (contLabel cur (line.drop sind)) line [(line.drop sind).drop 4]))
    (plain : st.pending = none → ∀ sind, (nextLabel st.prev st.sind line).isSrc = false →
      motive { st with sind := sind, prev := nextLabel st.prev st.sind line,
                       out := st.out ++ [(nextLabel st.prev st.sind line, line)] }) :
    motive st' := by
  simp only [labelStep_eq_spec, labelStepSpec] at h
  split at h
  · rename_i parts hp
    split at h
    · cases h; exact cont parts hp
    · split at h
      · rename_i ht; cases h; exact hack parts hp ht
      · cases h
  · rename_i hp
    split at h
    · rename_i hc
      split at h
      · cases h; exact first hp _ _ hc
      · cases h
    · rename_i hc
      cases h; exact plain hp _ (by simpa using hc)

theorem labelLines_ok_iff {ls : List Str} {out : List (Label × Str)} :
    labelLines ls = .ok out ↔
      ∃ st, ls.foldlM labelStep {} = .ok st ∧ st.pending = none ∧ st.out = out := by
  unfold labelLines
  constructor
  · intro h
    split at h
    · cases h
    · rename_i st hst
      cases hp : st.pending with
      | some p => rw [hp] at h; cases h
      | none => rw [hp] at h; cases h; exact ⟨st, hst, hp, rfl⟩
  · rintro ⟨st, hst, hp, rfl⟩
    simp [hst, hp]

theorem labelLines_error {ls : List Str} {e : ParseError} (h : labelLines ls = .error e) :
    e = .incomplete ∨ ∃ st l, l ∈ ls ∧ labelStep st l = .error e := by
  unfold labelLines at h
  split at h
  · next e' hf => cases h; exact .inr (foldlM_error hf)
  · split at h
    · cases h; exact .inl rfl
    · cases h

end Xdoc.Parser
