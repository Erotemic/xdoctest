import XdocModel.Capture
/-!
# `CaptureStdout` computes the buffer-free specification

The model of `Capture.lean` keeps a buffer, a file position and `_pos`; `spec` / `uncaptured` say what is logged
and what goes to the original stream without any of them. Under the buffer invariant `CapInv` (the file position
is the end of the buffer, `_pos` is inside it) the two agree for every sequence of events (`run_eq_spec`).
-/
namespace Xdoc.Capture
open Xdoc

structure CapInv (c : Cap) : Prop where
  atEnd : c.filePos = c.buf.length
  posLe : c.pos ≤ c.buf.length

theorem writeAt_length (buf s : Str) : writeAt buf buf.length s = buf ++ s := by
  simp [writeAt]

theorem step_capInv {c : Cap} (h : CapInv c) (e : Ev) : CapInv (step c e) := by
  cases e with
  | start => exact ⟨h.atEnd, h.posLe⟩
  | write s =>
    simp only [step]
    split
    · rw [h.atEnd, writeAt_length]
      exact ⟨by simp, by have := h.posLe; simp; omega⟩
    · exact ⟨h.atEnd, h.posLe⟩
  | «exit» => exact ⟨rfl, Nat.le_refl _⟩

theorem run_eq_spec (evs : List Ev) (c : Cap) (h : CapInv c) :
    (run evs c).parts = c.parts ++ spec c.capturing (c.buf.drop c.pos) evs ∧
    (run evs c).outside = c.outside ++ uncaptured c.capturing evs := by
  induction evs generalizing c with
  | nil => simp [run, spec, uncaptured]
  | cons e evs ih =>
    have hi := ih (step c e) (step_capInv h e)
    simp only [run, List.foldl_cons] at hi ⊢
    rw [hi.1, hi.2]
    cases e with
    | start => simp [step, spec, uncaptured]
    | write s =>
      simp only [step]
      cases hc : c.capturing with
      | true =>
        simp only [↓reduceIte, spec, uncaptured]
        rw [h.atEnd, writeAt_length, List.drop_append_of_le_length h.posLe]
        simp
      | false => simp [spec, uncaptured]
    | «exit» => simp [step, spec, uncaptured]

theorem spec_flatten (cap : Bool) (pend : Str) (evs : List Ev) :
    (spec cap pend evs).flatten ++ pending cap pend evs = pend ++ captured cap evs := by
  induction evs generalizing cap pend with
  | nil => simp [spec, pending, captured]
  | cons e evs ih =>
    cases e with
    | start => simp [spec, pending, captured, ih]
    | write s => cases cap <;> simp [spec, pending, captured, ih]
    | «exit» => simp [spec, pending, captured, ih]

theorem spec_writes (cap : Bool) (ws : List Str) (pend : Str) (r : List Ev) :
    spec cap pend (ws.map .write ++ r) = spec cap (if cap then pend ++ ws.flatten else pend) r := by
  induction ws generalizing pend with
  | nil => cases cap <;> simp
  | cons w ws ih => simp only [List.map_cons, List.cons_append, spec, ih]; cases cap <;> simp

theorem uncaptured_writes (cap : Bool) (ws : List Str) (r : List Ev) :
    uncaptured cap (ws.map .write ++ r) = (if cap then [] else ws.flatten) ++ uncaptured cap r := by
  induction ws with
  | nil => cases cap <;> simp
  | cons w ws ih => simp only [List.map_cons, List.cons_append, uncaptured, ih]; cases cap <;> simp

theorem spec_cycles (cs : List (List Str × List Str)) :
    spec false [] (cycles cs) = cs.map (fun c => c.2.flatten) ∧
    uncaptured false (cycles cs) = (cs.map (fun c => c.1.flatten)).flatten := by
  induction cs with
  | nil => simp [cycles, spec, uncaptured]
  | cons c cs ih =>
    obtain ⟨before, writes⟩ := c
    simp only [cycles, cycle, List.append_assoc, List.cons_append, spec_writes, uncaptured_writes, spec, uncaptured]
    simp [ih]

end Xdoc.Capture
