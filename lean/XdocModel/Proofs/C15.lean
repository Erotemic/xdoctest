import XdocModel.Lemmas.Plugin
import XdocModel.Lemmas.Runner
import XdocModel.Proofs.C10
/-!
# C15 — the pytest plugin and the native runner give the same verdict for every doctest

Both verdicts are functions of the outcome of the SAME run-loop model (`Example.lean`) on the same
parts and oracles; only `on_error` (`raise` / `return`) and the mode (`pytest` / `native`) differ.
The theorems hold for ALL part lists, requirement / execution / import oracles and option defaults.
-/
namespace Xdoc.C15
open Xdoc Py

variable {Env : Type}

theorem pytest_verdict_eq (sat : Str → Option Bool) (sem : Env → Nat → RunPart → ExecResult × Env)
    (defaults : List (String × Bool)) (importOk : Bool) (env0 : Env) (parts : List RunPart)
    (hN : (run sat sem (nativeCfg defaults importOk) env0 parts).ending = .returned) :
    pytestVerdictOfRun (run sat sem (pytestCfg defaults importOk) env0 parts) =
      verdictOfSummary (run sat sem (nativeCfg defaults importOk) env0 parts).summary := by
  obtain ⟨hst, hend⟩ := pytestRun_of_nativeRun sat sem defaults importOk env0 parts
  rcases hend with ⟨h, -⟩ | ⟨-, hP⟩
  · rw [hN] at h; cases h
  · rw [pytestVerdictOfRun, hP, verdictOfSummary]
    rcases C02.summary_cases sat sem (nativeCfg defaults importOk) env0 parts with
      ⟨fl, hf, hs⟩ | ⟨hf, _, hs⟩ | ⟨hf, _, hran, hs⟩
    · simp [hf, hs]
    · simp [hf, hs]
    · simp [hf, hs, anythingRan_run, hst, hran]

/-- ★ the core: how the two runs of the same doctest end, and that the verdicts read off them agree.
    The native run either returns a summary or lets the "Could not clean traceback" error escape
    (C09's hypothesis excludes the latter); in the first case the native verdict is the pytest
    verdict, in the second pytest reports `failed` and the native run is aborted. -/
theorem run_verdicts (sat : Str → Option Bool) (sem : Env → Nat → RunPart → ExecResult × Env)
    (defaults : List (String × Bool)) (importOk : Bool) (env0 : Env) (parts : List RunPart) :
    ((run sat sem (nativeCfg defaults importOk) env0 parts).ending = .returned ∧
      nativeVerdict (run sat sem (nativeCfg defaults importOk) env0 parts) =
        some (pytestVerdictOfRun (run sat sem (pytestCfg defaults importOk) env0 parts))) ∨
    ((run sat sem (nativeCfg defaults importOk) env0 parts).ending = .escaped ∧
      nativeVerdict (run sat sem (nativeCfg defaults importOk) env0 parts) = none ∧
      pytestVerdictOfRun (run sat sem (pytestCfg defaults importOk) env0 parts) = .failed) := by
  rcases (pytestRun_of_nativeRun sat sem defaults importOk env0 parts).2 with ⟨hN, hP⟩ | ⟨hN, -⟩
  · exact .inr ⟨hN, by rw [nativeVerdict, resultOfRun, hN]; rfl, by rw [pytestVerdictOfRun, hP]⟩
  · exact .inl ⟨hN, by rw [nativeVerdict, resultOfRun_of_returned hN, pytest_verdict_eq sat sem defaults importOk env0 parts hN]; rfl⟩

theorem pytest_failed_iff (sat : Str → Option Bool) (sem : Env → Nat → RunPart → ExecResult × Env)
    (defaults : List (String × Bool)) (importOk : Bool) (env0 : Env) (parts : List RunPart)
    (hesc : (run sat sem (nativeCfg defaults importOk) env0 parts).ending ≠ .escaped) :
    pytestVerdictOfRun (run sat sem (pytestCfg defaults importOk) env0 parts) = .failed ↔
      (run sat sem (nativeCfg defaults importOk) env0 parts).summary.failed = true := by
  have hN := (run_verdicts sat sem defaults importOk env0 parts).elim (·.1) fun h => absurd h.1 hesc
  rw [pytest_verdict_eq sat sem defaults importOk env0 parts hN, verdictOfSummary]
  rcases C02.verdict_trichotomy sat sem (nativeCfg defaults importOk) env0 parts with
    ⟨hp, hf, hs⟩ | ⟨hp, hf, hs⟩ | ⟨hp, hf, hs⟩ <;> simp [hp, hf, hs]

/-- the pytest pattern list extends the native one -/
theorem disabled_native_imp_pytest (src : Str) (h : isDisabled false src = true) :
    isDisabled true src = true := by
  simp only [isDisabled, disableKeywordsFor, List.any_eq_true] at h ⊢
  obtain ⟨kw, hkw, hm⟩ := h
  refine ⟨kw, ?_, hm⟩
  simp only [List.append_nil, Bool.false_eq_true, ↓reduceIte, List.mem_map] at hkw
  obtain ⟨k, hk, rfl⟩ := hkw
  simp only [↓reduceIte, List.map_append, List.mem_append, List.mem_map]
  exact Or.inl ⟨k, hk, rfl⟩

/-- ★ `front_ends_agree`: for every doctest that is not force-disabled and every run result (all
    parts, all oracles, all option defaults) the verdict pytest reports for the item equals the
    verdict the native runner reports (passed / failed / skipped), unless the "Could not clean
    traceback" error escapes `run` (then pytest says failed and the native run is aborted).
    A force-disabled doctest is `skipped` under pytest and omitted by the native `all`. -/
theorem front_ends_agree (sat : Str → Option Bool) (sem : Env → Nat → RunPart → ExecResult × Env)
    (defaults : List (String × Bool)) (importOk : Bool) (env0 : Env) (d : Doc) (parts : List RunPart) :
    let oP := run sat sem (pytestCfg defaults importOk) env0 parts
    let oN := run sat sem (nativeCfg defaults importOk) env0 parts
    (isDisabled true d.docsrc = false → oN.ending ≠ .escaped →
        nativeVerdict oN = some (pytestVerdict d.docsrc oP)) ∧
    (isDisabled true d.docsrc = false → oN.ending = .escaped →
        nativeVerdict oN = none ∧ pytestVerdict d.docsrc oP = .failed) ∧
    (isDisabled true d.docsrc = true → pytestVerdict d.docsrc oP = .skipped) ∧
    (isDisabled false d.docsrc = true → ∀ docs : List Doc, d ∉ nativeRun docs) := by
  have h := run_verdicts sat sem defaults importOk env0 parts
  intro oP oN
  refine ⟨?_, ?_, ?_, ?_⟩
  · intro hd hne
    rcases h with ⟨_, h2⟩ | ⟨h1, _⟩
    · simp only [pytestVerdict, hd, Bool.false_eq_true, ↓reduceIte]
      exact h2
    · exact absurd h1 hne
  · intro hd hesc
    rcases h with ⟨h1, _⟩ | ⟨_, h2, h3⟩
    · rw [hesc] at h1; cases h1
    · simp only [pytestVerdict, hd, Bool.false_eq_true, ↓reduceIte]
      exact ⟨h2, h3⟩
  · intro hd; simp [pytestVerdict, hd]
  · intro hd docs hmem
    have := (List.mem_filter.mp hmem).2
    simp [hd] at this

/-- ★ the two front ends name the doctests of a module identically: pytest's item names are the
    names `list` prints -/
theorem same_identifiers (examples : List Entry) :
    pytestItems (examples.map (·.doc)) = listNames examples := by
  simp [pytestItems, listNames]

/-- ★ the `anything_ran()` test of `runtest` never fires on its own: whenever `run` returns under
    pytest, something was logged (an all-skipped run has already called `pytest.skip()` inside
    `run`) -/
theorem anything_ran_redundant (sat : Str → Option Bool) (sem : Env → Nat → RunPart → ExecResult × Env)
    (defaults : List (String × Bool)) (importOk : Bool) (env0 : Env) (parts : List RunPart)
    (h : (run sat sem (pytestCfg defaults importOk) env0 parts).ending = .returned) :
    anythingRan (run sat sem (pytestCfg defaults importOk) env0 parts) = true := by
  obtain ⟨hst, hend⟩ := pytestRun_of_nativeRun sat sem defaults importOk env0 parts
  rcases hend with ⟨_, hP⟩ | ⟨_, hP⟩
  · rw [hP] at h; cases h
  · -- pytest returns only in the third case: no failure, not everything skipped, so some part ran
    rw [hP] at h
    rcases C02.summary_cases sat sem (nativeCfg defaults importOk) env0 parts with
      ⟨fl, hf, _⟩ | ⟨hf, _, hs⟩ | ⟨_, _, hran, _⟩
    · rw [hf] at h; cases h
    · rw [hf, hs] at h; cases h
    · simp [anythingRan_run, hst, hran]

abbrev Module := List (Doc × List RunPart)

def pytestVerdicts (sat : Str → Option Bool) (sem : Doc → Env → Nat → RunPart → ExecResult × Env)
    (defaults : List (String × Bool)) (importOk : Bool) (env0 : Env) (m : Module) : List Verdict :=
  m.map fun dp => pytestVerdict dp.1.docsrc (run sat (sem dp.1) (pytestCfg defaults importOk) env0 dp.2)

def SomeFailed (sat : Str → Option Bool) (sem : Doc → Env → Nat → RunPart → ExecResult × Env)
    (defaults : List (String × Bool)) (importOk : Bool) (env0 : Env) (m : Module) : Prop :=
  ∃ dp ∈ m, isDisabled false dp.1.docsrc = false ∧
    (run sat (sem dp.1) (nativeCfg defaults importOk) env0 dp.2).summary.failed = true

/-- ★ `both_exit_nonzero_iff_failed`: for every module with at least one collected doctest, all
    oracles and option defaults, when no "Could not clean traceback" error escapes and no doctest
    uses the pytest-only disabling pattern (K-C15-a), `pytest --xdoctest-modules` and
    `python -m xdoctest <mod> all` both exit non-zero exactly when some doctest that is not
    force-disabled failed (`hz`: no zero-argument function is called `all`, as in `C10.all_runs_enabled_once`). -/
theorem both_exit_nonzero_iff_failed (sat : Str → Option Bool)
    (sem : Doc → Env → Nat → RunPart → ExecResult × Env)
    (defaults : List (String × Bool)) (importOk : Bool) (env0 : Env) (m zeroDocs : Module)
    (hne : m ≠ [])
    (hz : ∀ z ∈ zeroDocs, z.1.callname ≠ cmdAll)
    (hesc : ∀ dp ∈ m, (run sat (sem dp.1) (nativeCfg defaults importOk) env0 dp.2).ending ≠ .escaped)
    (hsame : ∀ dp ∈ m, isDisabled true dp.1.docsrc = isDisabled false dp.1.docsrc) :
    (pytestExit (pytestVerdicts sat sem defaults importOk env0 m) ≠ 0 ↔
        SomeFailed sat sem defaults importOk env0 m) ∧
    (exitCode (doctestModule (mainCommand none) (C10.entriesOf sat sem defaults importOk env0 m)
        (C10.entriesOf sat sem defaults importOk env0 zeroDocs)) ≠ 0 ↔
        SomeFailed sat sem defaults importOk env0 m) := by
  constructor
  · have hne' : pytestVerdicts sat sem defaults importOk env0 m ≠ [] := fun h => hne (List.map_eq_nil_iff.mp h)
    rw [pytestExit_ne_zero_iff hne', pytestVerdicts, List.mem_map]
    refine exists_congr fun dp => and_congr_right fun hdp => ?_
    rw [pytestVerdict_eq_failed_iff, hsame dp hdp,
      pytest_failed_iff sat (sem dp.1) defaults importOk env0 dp.2 (hesc dp hdp)]
  · refine C10.exit_nonzero_iff_failed_entriesOf sat sem defaults importOk env0 m zeroDocs hz fun dp hdp =>
      resultOfRun_of_returned ?_
    exact (run_verdicts sat (sem dp.1) defaults importOk env0 dp.2).elim (·.1) fun h => absurd h.1 (hesc dp hdp)

/-- ★ both option parsers feed `default_runtime_state` through the same function: given the same
    option string on the command line they produce the same defaults (when no option is given
    natively, a config file in the working directory may supply one that pytest never reads) -/
theorem option_parsers_agree (opts : Str) :
    pytestDefaults (some opts) = nativeDefaults (some opts) ∧
    pytestDefaults none = nativeDefaults none [] := by
  constructor <;> simp [pytestDefaults, nativeDefaults, populateFromCli]

def kDoc : Doc := ⟨"f".toList, 0, ">>> # pytest.skip\n>>> print(1)\n2".toList⟩
def kParts : List RunPart :=
  [{ part := { execLines := ["# pytest.skip".toList, "print(1)".toList], wantLines := some ["2".toList] } }]
def kSem : Unit → Nat → RunPart → ExecResult × Unit := fun _ _ _ => (.ok "1\n".toList .notEvaled, ())

/-- witness of K-C15-a: a failing doctest whose first line is `>>> # pytest.skip` is force-disabled
    for pytest only: pytest reports `skipped` (exit status 0), the native runner runs it and
    reports `failed` (exit status 1) -/
theorem pytest_skip_pattern_disables_pytest_only :
    isDisabled true kDoc.docsrc = true ∧ isDisabled false kDoc.docsrc = false ∧
    pytestVerdict kDoc.docsrc (run (fun _ => some true) kSem (pytestCfg [] true) () kParts) = .skipped ∧
    nativeVerdict (run (fun _ => some true) kSem (nativeCfg [] true) () kParts) = some .failed ∧
    pytestExit [.skipped] = 0 ∧
    exitCode (doctestModule cmdAll
      [⟨kDoc, resultOfRun (run (fun _ => some true) kSem (nativeCfg [] true) () kParts)⟩] []) = 1 := by
  unfold kDoc kSem kParts; decide_lits

section Examples
def exParts : List RunPart :=
  [{ part := { execLines := ["print(1)".toList], wantLines := some ["1".toList] } },
   { part := { execLines := ["print(3)".toList], wantLines := some ["4".toList] },
     directives := [{ name := "SKIP", inline := true }] }]
def exSem : Unit → Nat → RunPart → ExecResult × Unit := fun _ i _ =>
  (if i == 0 then .ok "1\n".toList .notEvaled else .ok "3\n".toList .notEvaled, ())
def exOne : List RunPart :=
  [{ part := { execLines := ["print(1)".toList], wantLines := some ["1".toList] } }]
def exDoc : Doc := ⟨"g".toList, 0, ">>> print(1)\n1\n>>> print(3)  # xdoctest: +SKIP\n4".toList⟩

example : isDisabled true exDoc.docsrc = false := by unfold exDoc; decide_lits
theorem exNative : resultOfRun (run (fun _ => some true) exSem (nativeCfg [] true) () exParts) =
    .summary ⟨true, false, false⟩ := by unfold exSem exParts; decide_lits
example : (run (fun _ => some true) exSem (nativeCfg [] true) () exParts).ending ≠ .escaped := by
  intro h; have := exNative; rw [resultOfRun, h] at this; cases this
example : pytestVerdict exDoc.docsrc (run (fun _ => some true) exSem (pytestCfg [] true) () exParts) = .passed := by
  unfold exDoc exSem exParts; decide_lits
example : nativeVerdict (run (fun _ => some true) exSem (nativeCfg [] true) () exParts) = some .passed := by
  rw [nativeVerdict, exNative]; rfl
/-- under `--options=+SKIP` both say skipped (pytest through `pytest.skip()` inside `run`) -/
example : (run (fun _ => some true) exSem (pytestCfg [("SKIP", true)] true) () exOne).ending = .pytestSkip := by
  decide +kernel
example : nativeVerdict (run (fun _ => some true) exSem (nativeCfg [("SKIP", true)] true) () exOne) = some .skipped := by
  decide +kernel
example : pytestDefaults (some "-ELLIPSIS,+skip".toList) = some [("ELLIPSIS", false), ("SKIP", true)] := by
  decide_lits
example : pytestDefaults (some "+nonsense".toList) = none := by decide_lits
/-- a doctest that fails before anything ran (compile-only error in the first executed part, malformed
    directive, import error): pytest says failed (the error is re-raised), the native runner says failed -/
example : pytestVerdict [] (run C10.earlySat C10.earlySem (pytestCfg [] true) () C10.pCompile) = .failed ∧
    nativeVerdict (run C10.earlySat C10.earlySem (nativeCfg [] true) () C10.pCompile) = some .failed ∧
    pytestVerdict [] (run C10.earlySat C10.earlySem (pytestCfg [] true) () C10.pDirective) = .failed ∧
    nativeVerdict (run C10.earlySat C10.earlySem (nativeCfg [] true) () C10.pDirective) = some .failed ∧
    pytestVerdict [] (run C10.earlySat C10.earlySem (pytestCfg [] false) () C10.pPlain) = .failed ∧
    nativeVerdict (run C10.earlySat C10.earlySem (nativeCfg [] false) () C10.pPlain) = some .failed := by
  decide +kernel
end Examples

end Xdoc.C15
