import XdocModel.Lemmas.Example
/-!
# C02 — Got/want verdicts are exact: no false pass, no false fail

Theorems about the run-loop model (`Example.lean`) for ALL part lists, ALL execution oracles `sem`
(what CPython does when a part runs), all requirement oracles `sat` and all configurations.
-/
namespace Xdoc.C02
open Xdoc Py

variable {Env : Type}

/-- the texts a want is compared with: the concatenation of the last `k ≥ 1` entries of
    `unmatched ++ [stdout]`, shortest first -/
def candidates : List Str → Str → List Str
  | [], acc => [acc]
  | u :: us, acc => acc :: candidates us (u ++ acc)

/-- the verdict over the candidates: satisfied if SOME candidate is; otherwise the repr error if one occurred; otherwise
    "differs" (`DoctestPart.check` since ab6e73c) -/
def verdictOf : List GotWant → GotWant
  | [] => .differs
  | .ok :: _ => .ok
  | .differs :: r => verdictOf r
  | .reprError :: r =>
    match verdictOf r with
    | .ok => .ok
    | _ => .reprError

theorem checkTrailing_eq (f : Flags) (want : Str) (ev : EvalResult) (us : List Str) (acc : Str) :
    checkTrailing f want ev us acc =
      verdictOf ((candidates us acc).map fun c => checkGotVsWant f want c ev) := by
  induction us generalizing acc with
  | nil =>
    simp only [checkTrailing, candidates, List.map_cons, List.map_nil]
    cases checkGotVsWant f want acc ev <;> simp [verdictOf]
  | cons u us ih =>
    simp only [checkTrailing, candidates, List.map_cons]
    cases h : checkGotVsWant f want acc ev
    · simp [verdictOf]
    · simp [verdictOf, ih]
    · simp only [verdictOf, ih]
      generalize verdictOf (List.map (fun c => checkGotVsWant f want c ev) (candidates us (u ++ acc))) = v
      cases v <;> rfl

/-- ★ `verdictOf_ok_iff`: the search over the candidate outputs says ok exactly when one candidate matches -/
theorem verdictOf_ok_iff (l : List GotWant) : verdictOf l = .ok ↔ .ok ∈ l := by
  induction l with
  | nil => simp [verdictOf]
  | cons g l ih =>
    cases g with
    | ok => simp [verdictOf]
    | differs => simp [verdictOf, ih]
    | reprError =>
      simp only [verdictOf, List.mem_cons, reduceCtorEq, false_or]
      rw [← ih]
      cases verdictOf l <;> simp

theorem verdictOf_differs_iff (l : List GotWant) : verdictOf l = .differs ↔ ∀ g ∈ l, g = .differs := by
  induction l with
  | nil => simp [verdictOf]
  | cons g l ih =>
    cases g with
    | ok => simp [verdictOf]
    | differs => simp [verdictOf, ih]
    | reprError => simp only [verdictOf]; cases verdictOf l <;> simp

theorem mem_candidates_iff (us : List Str) (acc c : Str) :
    c ∈ candidates us acc ↔ ∃ k, k ≤ us.length ∧ c = (us.take k).reverse.flatten ++ acc := by
  induction us generalizing acc with
  | nil => simp [candidates]
  | cons u us ih =>
    simp only [candidates, List.mem_cons, ih, List.length_cons]
    constructor
    · rintro (h | ⟨k, hk, h⟩)
      · exact ⟨0, by omega, by simp [h]⟩
      · exact ⟨k + 1, by omega, by simp [h]⟩
    · rintro ⟨k, hk, h⟩
      cases k with
      | zero => exact Or.inl (by simpa using h)
      | succ k => exact Or.inr ⟨k, by omega, by simpa using h⟩

/-- ★ `want_ok_iff`: a want is satisfied
    iff SOME trailing portion of the output produced since the previous want (the last `k` outputs, `k ≥ 0` earlier ones plus this
    part's own) satisfies `check_got_vs_want`: stdout, or the value's repr when there is no stdout, or either when both exist.
    No hypothesis on the value's repr: a repr that raises does not end the search (for the search that stops there the
    statement fails, `want_ok_iff_old_code_fails`). -/
theorem want_ok_iff (f : Flags) (want out : Str) (ev : EvalResult) (unm : List Str) :
    partCheck f want out ev unm = .ok ↔
      ∃ k, k ≤ unm.length ∧
        checkGotVsWant f want (((unm.reverse.take k).reverse).flatten ++ out) ev = .ok := by
  unfold partCheck
  rw [checkTrailing_eq, verdictOf_ok_iff]
  simp only [List.mem_map]
  constructor
  · rintro ⟨c, hc, h⟩
    obtain ⟨k, hk, rfl⟩ := (mem_candidates_iff _ _ _).mp hc
    exact ⟨k, by simpa using hk, h⟩
  · rintro ⟨k, hk, h⟩
    exact ⟨_, (mem_candidates_iff _ _ _).mpr ⟨k, by simpa using hk, rfl⟩, h⟩

/-- the search that a repr error ends at once (`DoctestPart.check` before ab6e73c), kept for the witness below -/
def checkTrailingOld (f : Flags) (want : Str) (ev : EvalResult) : List Str → Str → GotWant
  | [], acc => checkGotVsWant f want acc ev
  | u :: us, acc =>
    match checkGotVsWant f want acc ev with
    | .ok => .ok
    | .reprError => .reprError
    | .differs => checkTrailingOld f want ev us (u ++ acc)

def demoFlags : Flags := { ellipsis := true, normWs := true, ignWs := false, normRepr := true, noBlank := false }

/-- the false fail of `checkTrailingOld`: `>>> print('a')` / `>>> badp(1)` (prints `q1`, returns a value whose repr raises) with the
    want `a` / `q1`: the want equals everything written since the previous want, but that search stops at the first candidate -/
theorem want_ok_iff_old_code_fails :
    checkTrailingOld demoFlags "a\nq1".toList .reprRaises ["a\n".toList] "q1\n".toList = .reprError ∧
    partCheck demoFlags "a\nq1".toList "q1\n".toList .reprRaises ["a\n".toList] = .ok := by decide_lits

/-- the three ways a single candidate text satisfies a want (`check_got_vs_want`) -/
theorem candidate_ok_iff (f : Flags) (want got : Str) (r : Str) :
    checkGotVsWant f want got (.value r) = .ok ↔
      (got = [] ∧ checkOutput f r want = true) ∨
      (got ≠ [] ∧ (checkOutput f got want = true ∨ checkOutput f r want = true)) := by
  unfold checkGotVsWant
  cases got with
  | nil => cases h : checkOutput f r want <;> simp [h]
  | cons c g =>
    cases checkOutput f (c :: g) want with
    | true => simp
    | false => cases h : checkOutput f r want <;> simp [h]

theorem candidate_ok_iff_noeval (f : Flags) (want got : Str) :
    checkGotVsWant f want got .notEvaled = .ok ↔ checkOutput f got want = true := by
  unfold checkGotVsWant; cases checkOutput f got want <;> simp

/-- ★ code without a want never fails because of what it prints or returns -/
theorem no_want_never_fails (f : Flags) (iw : Bool) (unm : List Str) (out : Str) (ev : EvalResult) :
    decideExec f iw none unm (.ok out ev) = .ran out .append := rfl

/-- ★ a want that is there but ignored (IGNORE_WANT on) is never compared — whatever the output — and it still ENDS the window of
    "output since the previous want": the unmatched output is cleared, exactly as after a compared want (were such a part treated
    like one without a want, a later want could be satisfied by output from before the ignored one: seed C02-6A) -/
theorem ignored_want_closes_window (f : Flags) (want : Str) (unm : List Str) (out : Str) (ev : EvalResult) :
    decideExec f true (some want) unm (.ok out ev) = .ran out .clear := rfl

/-- ★ with a want (and IGNORE_WANT off) the part fails with a got/want error exactly when the
    check over the trailing outputs says "differs"; otherwise the loop goes on and the unmatched
    output is cleared -/
theorem want_decision (f : Flags) (want : Str) (unm : List Str) (out : Str) (ev : EvalResult) :
    decideExec f false (some want) unm (.ok out ev) =
      match partCheck f want out ev unm with
      | .ok => .ran out .clear
      | .differs => .halt true out (some (.gotWant, 1))
      | .reprError => .halt true out (some (.reprError, 1)) := by
  simp only [decideExec, Bool.false_eq_true, ↓reduceIte]
  cases partCheck f want out ev unm <;> rfl

/-- a recorded failure ended the loop at a part that was not skipped: not every part is in `_skipped_parts` -/
theorem failed_not_all_skipped (sat : Str → Option Bool) (sem : Env → Nat → RunPart → ExecResult × Env)
    (cfg : RunCfg) (env0 : Env) (parts : List RunPart) (fl : Failure)
    (h : (run sat sem cfg env0 parts).state.failure = some fl) :
    (run sat sem cfg env0 parts).state.skipped.length ≠ parts.length := by
  have r := run_result sat sem cfg env0 parts
  rw [run_state] at h ⊢
  exact Nat.ne_of_lt (r.stopped (r.failure_stopped h))

/-- ★ `failure_stops` ("the first bad want stops the doctest", general form): a recorded failure is attributed to a part that was
    not skipped; every part before it was skipped or executed, each executed part ran exactly once
    and in order (`executed` is strictly increasing), and no part after it ran. -/
theorem failure_stops (sat : Str → Option Bool) (sem : Env → Nat → RunPart → ExecResult × Env)
    (cfg : RunCfg) (env0 : Env) (parts : List RunPart) (fl : Failure)
    (h : (run sat sem cfg env0 parts).state.failure = some fl) :
    let st := (run sat sem cfg env0 parts).state
    fl.partIdx < parts.length ∧ fl.partIdx ∉ st.skipped ∧
    st.executed.Pairwise (· < ·) ∧ (∀ j ∈ st.executed, j ≤ fl.partIdx) ∧
    (∀ j, j < fl.partIdx → j ∈ st.skipped ∨ j ∈ st.executed) := by
  have r := run_result sat sem cfg env0 parts
  rw [run_state] at h ⊢
  exact ⟨r.failure_lt h, r.failure_not_skipped h, r.executedSorted, r.executed_le_failure h, r.covered_below_failure h⟩

/-- the loop ran to the end over a part that was not skipped, or it stopped right after executing one -/
theorem ran_something (sat : Str → Option Bool) (sem : Env → Nat → RunPart → ExecResult × Env)
    (cfg : RunCfg) (env0 : Env) (parts : List RunPart)
    (hf : (run sat sem cfg env0 parts).state.failure = none)
    (hs : (run sat sem cfg env0 parts).state.skipped.length ≠ parts.length) :
    (run sat sem cfg env0 parts).state.executed ≠ [] := by
  have r := run_result sat sem cfg env0 parts
  rw [run_state] at hf hs ⊢
  cases he : (runLoop sat sem cfg { env := env0, rs := RState.init cfg.defaults } 0 parts).2 with
  | none =>
    intro hnil
    have := (r.complete he).2
    rw [hnil] at this
    exact hs this
  | some e => exact r.stoppedRan (by rw [he]; rfl) hf

theorem summary_cases (sat : Str → Option Bool) (sem : Env → Nat → RunPart → ExecResult × Env)
    (cfg : RunCfg) (env0 : Env) (parts : List RunPart) :
    let o := run sat sem cfg env0 parts
    (∃ fl, o.state.failure = some fl ∧ o.summary = ⟨false, true, false⟩) ∨
    (o.state.failure = none ∧ o.state.skipped.length = parts.length ∧ o.summary = ⟨false, false, true⟩) ∨
    (o.state.failure = none ∧ o.state.skipped.length ≠ parts.length ∧ o.state.executed ≠ [] ∧
      o.summary = ⟨true, false, false⟩) := by
  dsimp only
  rw [run_summary, summaryOf]
  cases hf : (run sat sem cfg env0 parts).state.failure with
  | some fl => exact .inl ⟨fl, rfl, by simp [failed_not_all_skipped sat sem cfg env0 parts fl hf]⟩
  | none =>
    by_cases hs : (run sat sem cfg env0 parts).state.skipped.length = parts.length
    · exact .inr (.inl ⟨rfl, hs, by simp [hs]⟩)
    · exact .inr (.inr ⟨rfl, hs, ran_something sat sem cfg env0 parts hf hs, by simp [hs]⟩)

/-- ★ `verdict_trichotomy`: the summary says exactly one of passed / failed / skipped -/
theorem verdict_trichotomy (sat : Str → Option Bool) (sem : Env → Nat → RunPart → ExecResult × Env)
    (cfg : RunCfg) (env0 : Env) (parts : List RunPart) :
    let s := (run sat sem cfg env0 parts).summary
    (s.passed = true ∧ s.failed = false ∧ s.skipped = false) ∨
    (s.passed = false ∧ s.failed = true ∧ s.skipped = false) ∨
    (s.passed = false ∧ s.failed = false ∧ s.skipped = true) := by
  intro s
  rcases summary_cases sat sem cfg env0 parts with ⟨_, _, h⟩ | ⟨_, _, h⟩ | ⟨_, _, _, h⟩
  · exact .inr (.inl (by simp [s, h]))
  · exact .inr (.inr (by simp [s, h]))
  · exact .inl (by simp [s, h])

/-- ★ a doctest passes exactly when nothing failed and something was not skipped -/
theorem passed_iff (sat : Str → Option Bool) (sem : Env → Nat → RunPart → ExecResult × Env)
    (cfg : RunCfg) (env0 : Env) (parts : List RunPart) :
    let o := run sat sem cfg env0 parts
    o.summary.passed = true ↔ o.state.failure = none ∧ o.state.skipped.length ≠ parts.length := by
  simp [run_summary, summaryOf]

/-- ★ one in which nothing ran is reported skipped, never passed: a passed doctest executed
    at least one part -/
theorem passed_ran_something (sat : Str → Option Bool) (sem : Env → Nat → RunPart → ExecResult × Env)
    (cfg : RunCfg) (env0 : Env) (parts : List RunPart)
    (h : (run sat sem cfg env0 parts).summary.passed = true) :
    (run sat sem cfg env0 parts).state.executed ≠ [] :=
  have ⟨hf, hs⟩ := (passed_iff sat sem cfg env0 parts).mp h
  ran_something sat sem cfg env0 parts hf hs

/-- ★ skipped means: every part was skipped, nothing ran, nothing failed -/
theorem skipped_iff (sat : Str → Option Bool) (sem : Env → Nat → RunPart → ExecResult × Env)
    (cfg : RunCfg) (env0 : Env) (parts : List RunPart) :
    let o := run sat sem cfg env0 parts
    o.summary.skipped = true ↔ o.state.skipped.length = parts.length := by
  simp [run_summary, summaryOf]

section Example
def exParts : List RunPart :=
  [{ part := { execLines := ["x = 1".toList] } },
   { part := { execLines := ["print(x)".toList], wantLines := some ["2".toList] } },
   { part := { execLines := ["print(3)".toList] } }]
def exSem : Unit → Nat → RunPart → ExecResult × Unit := fun _ i _ =>
  (if i == 0 then .ok [] .notEvaled else if i == 1 then .ok "1\n".toList .notEvaled else .ok "3\n".toList .notEvaled, ())
/-- the run evaluated once -/
theorem exRun : let s := (run (fun _ => some true) exSem {} () exParts).state
    s.failure = some ⟨.gotWant, 1, 1⟩ ∧ s.executed = [0, 1] ∧ s.skipped = [] := by
  unfold exSem exParts; decide_lits
example : (run (fun _ => some true) exSem {} () exParts).state.failure
    = some { kind := .gotWant, partIdx := 1 } := exRun.1
example : (run (fun _ => some true) exSem {} () exParts).state.executed = [0, 1] := exRun.2.1
example : (run (fun _ => some true) exSem {} () exParts).summary
    = { passed := false, failed := true, skipped := false } := by
  rw [run_summary, summaryOf, exRun.1, exRun.2.2]; rfl
end Example

end Xdoc.C02
