import XdocModel.Proofs.C02
import XdocModel.Lemmas.Checker
import XdocModel.Lemmas.Str
/-!
# C03 — Exceptions are never swallowed; only a matching expected traceback passes

The decision table of the `except` branch of `DocTest.run`, for ALL texts and ALL flag settings.
`line` is the last line of `traceback.format_exception_only`, `tb` the line of the outermost
doctest frame of the traceback (present whenever the exception was raised by executing doctest
code).
-/
namespace Xdoc.C03
open Xdoc Py Re

/-- ★ no want: the doctest fails with that exception -/
theorem raise_no_want_fails (f : Flags) (iw : Bool) (unm : List Str) (out line : Str) (ln : Nat) :
    decideExec f iw none unm (.raised out line (some ln)) = .halt true out (some (.exception, ln)) := rfl

/-- ★ a want that is not a traceback block never hides an exception — whatever the flags,
    including IGNORE_WANT -/
theorem raise_nontraceback_want_fails_with_it (f : Flags) (iw : Bool) (unm : List Str)
    (out line want : Str) (ln : Nat) (h : extractExcWant want = none) :
    decideExec f iw (some want) unm (.raised out line (some ln)) = .halt true out (some (.exception, ln)) := by
  simp [decideExec, checkException, h]

/-- ★ a matching traceback want: the part is fine, the loop goes on (so the following statements
    still run) and the unmatched output is left alone -/
theorem raise_traceback_match_continues (f : Flags) (iw : Bool) (unm : List Str)
    (out line want : Str) (tb : Option Nat) (h : checkException f line want = some true) :
    decideExec f iw (some want) unm (.raised out line tb) = .ran out .keep := by
  simp [decideExec, h]

/-- ★ a traceback want that does not match fails the doctest with a got/want error -/
theorem raise_traceback_mismatch_fails (f : Flags) (iw : Bool) (unm : List Str)
    (out line want : Str) (tb : Option Nat) (h : checkException f line want = some false) :
    decideExec f iw (some want) unm (.raised out line tb) = .halt true out (some (.gotWant, 1)) := by
  simp [decideExec, h]

/-- ★ a traceback want on code that does not raise is an ordinary want: it is compared with the
    output like any other text (and therefore fails unless the output happens to equal it) -/
theorem no_raise_traceback_want_is_plain_comparison (f : Flags) (unm : List Str)
    (out want : Str) (ev : EvalResult) :
    decideExec f false (some want) unm (.ok out ev) =
      match partCheck f want out ev unm with
      | .ok => .ran out .clear
      | .differs => .halt true out (some (.gotWant, 1))
      | .reprError => .halt true out (some (.reprError, 1)) :=
  C02.want_decision f want unm out ev

/-- ★ when exactly an expected exception passes: the want is a traceback block whose final part
    matches the raised exception's line under the active flags, or — only with
    IGNORE_EXCEPTION_DETAIL — the bare exception names match and the expected name is not empty -/
theorem expected_exception_iff (f : Flags) (line want : Str) :
    checkException f line want = some true ↔
      ∃ ew, extractExcWant want = some ew ∧
        (checkOutput f line ew = true ∨
          (f.ignDetail = true ∧ stripExceptionDetails ew ≠ [] ∧
            checkOutput f (stripExceptionDetails line) (stripExceptionDetails ew) = true)) :=
  checkException_iff f line want

theorem takeWhile_ne_append_cons {x : Char} {a : Str} (b : Str) (ha : ∀ c ∈ a, c ≠ x) :
    (a ++ x :: b).takeWhile (· != x) = a :=
  takeWhile_append_cons_of_neg b (fun c hc => bne_iff_ne.mpr (ha c hc)) (by simp)

/-- ★ `_strip_exception_details`: module path and message are dropped, the bare name is kept -/
theorem stripDetails_spec (modpath name msg rest : Str)
    (hn : ∀ c ∈ name, c ≠ '.' ∧ c ≠ ':' ∧ c ≠ '\n')
    (hm : ∀ c ∈ modpath, c ≠ ':' ∧ c ≠ '\n')
    (hmsg : ∀ c ∈ msg, c ≠ '\n') :
    stripExceptionDetails (modpath ++ ['.'] ++ name ++ [':'] ++ msg ++ ['\n'] ++ rest) = name := by
  -- the first line ends at the newline, the name part at the colon, the bare name (read backwards) at the dot
  have e1 : ∀ c ∈ modpath ++ ['.'] ++ name ++ [':'] ++ msg, c ≠ '\n' := by
    simp only [List.forall_mem_append, List.forall_mem_singleton]
    exact ⟨⟨⟨⟨fun c h => (hm c h).2, by decide⟩, fun c h => (hn c h).2.2⟩, by decide⟩, hmsg⟩
  have e2 : ∀ c ∈ modpath ++ ['.'] ++ name, c ≠ ':' := by
    simp only [List.forall_mem_append, List.forall_mem_singleton]
    exact ⟨⟨fun c h => (hm c h).1, by decide⟩, fun c h => (hn c h).2.1⟩
  have e3 : ∀ c ∈ name.reverse, c ≠ '.' := fun c h => (hn c (List.mem_reverse.mp h)).1
  unfold stripExceptionDetails
  simp only
  rw [show modpath ++ ['.'] ++ name ++ [':'] ++ msg ++ ['\n'] ++ rest =
        (modpath ++ ['.'] ++ name ++ [':'] ++ msg) ++ '\n' :: rest by simp,
    takeWhile_ne_append_cons _ e1,
    show modpath ++ ['.'] ++ name ++ [':'] ++ msg = (modpath ++ ['.'] ++ name) ++ ':' :: msg by simp,
    takeWhile_ne_append_cons _ e2,
    show (modpath ++ ['.'] ++ name).reverse = name.reverse ++ '.' :: modpath.reverse by simp,
    takeWhile_ne_append_cons _ e3, List.reverse_reverse]

example : extractExcWant "Traceback (most recent call last):\n    ...\nValueError: m1".toList
    = some "ValueError: m1".toList := by decide_lits
example : checkException defaultFlags "ValueError: m1\n".toList
    "Traceback (most recent call last):\n    ...\nValueError: m1".toList = some true := by decide_lits
example : checkException defaultFlags "ValueError: m1\n".toList
    "Traceback (most recent call last):\n    ...\nValueError: other".toList = some false := by decide_lits
example : checkException { defaultFlags with ignDetail := true } "ValueError: m1\n".toList
    "Traceback (most recent call last):\n    ...\nsome.module.ValueError: other".toList = some true := by
  decide_lits
example : extractExcWant "ValueError: m1".toList = none := by decide_lits
example : stripExceptionDetails "foo.bar.MyError: la di da\n".toList = "MyError".toList := by decide_lits

end Xdoc.C03
