import XdocModel.Proofs.C13
import XdocModel.Lemmas.Labels
/-!
# C13 ☆ — on docstrings rendered from the grammar the labeller returns the intended labels

"Source is exactly the prompt-prefixed lines plus the lines needed to complete a statement they
open; a want is exactly the non-blank lines that follow source up to the first blank line,
de-indented line or next prompt; everything else is text."

The statement as given in `Proofs/C13.lean` is false (`labels_are_intended_statement_false`): the
labeller gives a continuation line with the `>>> ` prompt the label of the line before it (`curLab` is
carried), so in `>>> x = [` / `... 1,` / `>>> 2]` the third line is `dcnt` where `Block.intended` says
`dsrc`. What it does return is `Block.actual` (`labels_are_actual`); with one more side condition,
`Block.ContOrdered`, that is `Block.intended` (`labels_are_intended`). The `_general` forms are for a
larger grammar (`Block.WellFormedG`, `SeparatedG`): a later statement of a block may open with `...`
(`>>> def f():` / `...     body`, which the oracle condition of the original grammar excludes because
`def f():` alone is balanced for the tokenizer), a prompt may be bare, continuation lines may be
old-style (four blanks), and an example block may directly follow an example block. All are instances
of one induction over the blocks (`labels_run`), from any state of the labeller that the first block
can start in.
-/
namespace Xdoc.C13
open Xdoc Py Parser

/-- the labels the labeller gives: like `Block.intended`, except that a continuation line without
    the `...` prompt gets the label of the line before it -/
def Block.actual : Block → List Label
  | .prose ls => ls.map fun _ => .text
  | .blank n => List.replicate n .text
  | .example _ stmts want => stmts.flatMap stmtLabels ++ want.map fun _ => .want

def Separated (bs : List Block) : Prop :=
  ∀ pre k stmts want b rest, bs = pre ++ Block.example k stmts want :: b :: rest → ∃ n, b = .blank (n + 1)

/-- side conditions of the larger grammar: prose is not a prompt; the first statement of an example
    opens with `>>>`, a later one with `>>>` or `...` (not bare); the other lines of a statement
    start with a prompt or four blanks; every statement is balanced as a whole and no strict prefix
    of it is; want lines as in `Block.WellFormed` -/
def Block.WellFormedG : Block → Prop
  | .prose ls => ∀ l ∈ ls, hasPrefix (strip l) [ps1] = false
  | .blank _ => True
  | .example _ stmts want =>
    (∃ s ss, stmts = s :: ss ∧ StmtOk1 s ∧ ∀ s' ∈ ss, StmtOk1 s' ∨ StmtOk2 s') ∧ ∀ w ∈ want, WantOk w

/-- what may follow an example block: a blank line, or another example block — after a want at any
    indentation, after source only at the same indentation (cf. finding K-C13-a) -/
def SeparatedG (bs : List Block) : Prop :=
  ∀ pre k stmts want b rest, bs = pre ++ Block.example k stmts want :: b :: rest →
    (∃ n, b = .blank (n + 1)) ∨ ∃ k' stmts' want', b = .example k' stmts' want' ∧ (want ≠ [] ∨ k' = k)

theorem SeparatedG.tail {b : Block} {bs : List Block} (h : SeparatedG (b :: bs)) : SeparatedG bs := by
  intro pre k stmts want b' rest hb
  exact h (b :: pre) k stmts want b' rest (by rw [hb]; rfl)

def NextOk (st : LabelState) : List Block → Prop
  | .prose _ :: _ => st.prev = .text
  | .blank n :: _ => st.prev = .text ∨ 0 < n
  | .example k _ _ :: _ => OpenAt k st.prev st.sind
  | [] => True

theorem NextOk.of_text {st : LabelState} (h : st.prev = .text) : ∀ bs, NextOk st bs
  | [] => trivial
  | .prose _ :: _ => h
  | .blank _ :: _ => Or.inl h
  | .example _ _ _ :: _ => Or.inl h

/-- the induction: from any state without a pending statement that the first block can start in -/
theorem labels_run (bs : List Block) (hwf : ∀ b ∈ bs, b.WellFormedG) (hsep : SeparatedG bs)
    (st : LabelState) (hn : st.pending = none) (hp : NextOk st bs) :
    ∃ st', Run st (bs.flatMap Block.render) (bs.flatMap Block.actual) st' ∧ st'.pending = none := by
  induction bs generalizing st with
  | nil => exact ⟨st, Run.nil st, hn⟩
  | cons b bs ih =>
    have hb := hwf b List.mem_cons_self
    obtain ⟨st1, hr1, hn1, hp1⟩ : ∃ st1, Run st b.render b.actual st1 ∧ st1.pending = none ∧ NextOk st1 bs := by
      cases b with
      | prose ls =>
        obtain ⟨st1, hr1, h1, h2⟩ := run_prose ls hb st hp hn
        exact ⟨st1, hr1, h2, .of_text h1 bs⟩
      | blank n =>
        obtain ⟨st1, hr1, h1, h2⟩ := run_blank n st hn
        exact ⟨st1, hr1, h1, .of_text (h2 hp) bs⟩
      | «example» k stmts want =>
        obtain ⟨⟨s, ss, rfl, hs1, hss⟩, hw⟩ := hb
        obtain ⟨st1, hr1, h1, h1w⟩ := run_example k s ss want hs1 hss hw st ⟨hn, hp⟩
        refine ⟨st1, hr1, h1.1, ?_⟩
        cases bs with
        | nil => trivial
        | cons b' rest =>
          rcases hsep [] k (s :: ss) want b' rest rfl with ⟨n, rfl⟩ | ⟨k', s', w', rfl, hk⟩
          · exact Or.inr (Nat.succ_pos n)
          · rcases hk with hk | rfl
            · exact Or.inr (Or.inl (h1w hk))
            · exact h1.ready.2
    obtain ⟨st2, hr2, h3⟩ := ih (fun b' hb' => hwf b' (List.mem_cons_of_mem _ hb')) hsep.tail st1 hn1 hp1
    exact ⟨st2, hr1.append hr2, h3⟩

/-- ★ what the labeller does on the larger grammar: the labels are `Block.actual` -/
theorem labels_are_actual_general (bs : List Block) (hwf : ∀ b ∈ bs, b.WellFormedG) (hsep : SeparatedG bs) :
    ∃ out, labelLines (bs.flatMap Block.render) = .ok out ∧ out.map (·.1) = bs.flatMap Block.actual := by
  obtain ⟨st', hr, hn⟩ := labels_run bs hwf hsep {} rfl (.of_text rfl bs)
  exact ⟨st'.out, labelLines_ok_iff.mpr ⟨st', hr.1, hn, rfl⟩, by simpa using hr.2⟩

theorem Block.WellFormed.toG {b : Block} (h : b.WellFormed) : b.WellFormedG := by
  cases b with
  | prose ls => exact fun l hl => (h l hl).2
  | blank n => trivial
  | «example» k stmts want =>
    obtain ⟨hne, hs, hw⟩ := h
    have hs1 : ∀ s ∈ stmts, StmtOk1 s := by
      intro s hs'
      obtain ⟨first, rest, rfl, hf, hl, hb, hu⟩ := hs s hs'
      exact ⟨first, rest, rfl, hasPrefix_of_startsWith_ps1 hf,
        fun l hl' => knownPrefix_of_prompt (hl l hl'), hb, hu⟩
    cases stmts with
    | nil => exact absurd rfl hne
    | cons s ss =>
      exact ⟨⟨s, ss, rfl, hs1 s List.mem_cons_self, fun s' hs' => Or.inl (hs1 s' (List.mem_cons_of_mem _ hs'))⟩, hw⟩

theorem Separated.toG {bs : List Block} (h : Separated bs) : SeparatedG bs :=
  fun pre k stmts want b rest hb => Or.inl (h pre k stmts want b rest hb)

/-- ★ what the labeller does on the grammar of `Proofs/C13.lean` (`Block.WellFormed`, `Separated`): the
    labels are `Block.actual` -/
theorem labels_are_actual (bs : List Block) (hwf : ∀ b ∈ bs, b.WellFormed) (hsep : Separated bs) :
    ∃ out, labelLines (bs.flatMap Block.render) = .ok out ∧ out.map (·.1) = bs.flatMap Block.actual :=
  labels_are_actual_general bs (fun b hb => Block.WellFormed.toG (hwf b hb)) hsep.toG

/-- inside a statement, once a line has the `...` prompt, every later line has it too (no `>>> ` or
    unprefixed continuation line after a `... ` line) -/
def contOrdered : List Str → Bool
  | [] => true
  | l :: r => (!hasPrefix l [ps2] || r.all (hasPrefix · [ps2])) && contOrdered r

def Block.ContOrdered : Block → Prop
  | .example _ stmts _ => ∀ s ∈ stmts, contOrdered s = true
  | _ => True

/-- in an ordered statement a line's label depends on its own prompt only: either the line before
    was `dsrc`, or this line and all after it have the `...` prompt -/
theorem contLabels_ordered (c : Label) (r : List Str) (ho : contOrdered r = true)
    (hc : c = .dsrc ∨ ∀ m ∈ r, hasPrefix m [ps2] = true) :
    contLabels c r = r.map (contLabel .dsrc) := by
  induction r generalizing c with
  | nil => rfl
  | cons l r ih =>
    simp only [contOrdered, Bool.and_eq_true, Bool.or_eq_true, Bool.not_eq_true', List.all_eq_true] at ho
    simp only [contLabels, List.map_cons]
    cases hl : hasPrefix l [ps2] with
    | true =>
      have hr : ∀ m ∈ r, hasPrefix m [ps2] = true := ho.1.resolve_left (by rw [hl]; exact Bool.noConfusion)
      simp only [contLabel, hl, if_true]
      rw [ih _ ho.2 (Or.inr hr)]
    | false =>
      obtain rfl : c = .dsrc := hc.resolve_right (fun h => by rw [h l List.mem_cons_self] at hl; cases hl)
      simp only [contLabel, hl, Bool.false_eq_true, if_false]
      rw [ih _ ho.2 (Or.inl rfl)]

theorem actual_eq_intended {b : Block} (ho : b.ContOrdered) : b.actual = b.intended := by
  cases b with
  | prose ls => rfl
  | blank n => rfl
  | «example» k stmts want =>
    simp only [Block.actual, Block.intended]
    rw [List.map_flatMap, List.flatMap_def, List.flatMap_def,
      List.map_congr_left (f := stmtLabels) (fun s hs => contLabels_ordered .dsrc s (ho s hs) (Or.inl rfl))]
    rfl

/-- ★ on the larger grammar with the added side condition the labeller returns the intended labels -/
theorem labels_are_intended_general (bs : List Block) (hwf : ∀ b ∈ bs, b.WellFormedG ∧ b.ContOrdered)
    (hsep : SeparatedG bs) :
    ∃ out, labelLines (bs.flatMap Block.render) = .ok out ∧ out.map (·.1) = bs.flatMap Block.intended := by
  obtain ⟨out, h1, h2⟩ := labels_are_actual_general bs (fun b hb => (hwf b hb).1) hsep
  exact ⟨out, h1, by rw [h2, List.flatMap_def, List.flatMap_def,
    List.map_congr_left (fun b hb => actual_eq_intended (hwf b hb).2)]⟩

/-- ☆ `labels_are_intended_statement` with the side condition `Block.ContOrdered` added to
    `Block.WellFormed`, and nothing else changed -/
def labels_are_intended_repaired : Prop :=
  ∀ bs : List Block, (∀ b ∈ bs, b.WellFormed ∧ b.ContOrdered) →
    (∀ pre k stmts want b rest, bs = pre ++ Block.example k stmts want :: b :: rest →
        ∃ n, b = .blank (n + 1)) →
    ∃ out, labelLines (bs.flatMap Block.render) = .ok out ∧ out.map (·.1) = bs.flatMap Block.intended

/-- ★ for docstrings rendered from the grammar of `Proofs/C13.lean` with the side condition
    `Block.ContOrdered` the labeller returns the intended labels -/
theorem labels_are_intended : labels_are_intended_repaired :=
  fun bs hwf hsep =>
    labels_are_intended_general bs (fun b hb => ⟨Block.WellFormed.toG (hwf b hb).1, (hwf b hb).2⟩) (Separated.toG hsep)

def stmtCoreB (s : List Str) : Bool :=
  s.tail.all knownPrefix && Lexer.isBalanced (s.map (·.drop 4)) &&
    (List.range s.length).all (fun n => n == 0 || !Lexer.isBalanced ((s.take n).map (·.drop 4)))

def stmtOk1B : List Str → Bool
  | [] => false
  | first :: rest => hasPrefix first [ps1] && stmtCoreB (first :: rest)

def stmtOk2B : List Str → Bool
  | [] => false
  | first :: rest => hasPrefix first [ps2] && !(strip first == ps2) && stmtCoreB (first :: rest)

def wantOkB (w : Str) : Bool :=
  !(strip w).isEmpty && !hasPrefix (strip w) [ps1, ps2] && indentOf w == 0 &&
    !((w.head?.map isSpace).getD false)

/-- `Block.WellFormedG ∧ Block.ContOrdered`, decided -/
def Block.checkG : Block → Bool
  | .prose ls => ls.all fun l => !hasPrefix (strip l) [ps1]
  | .blank _ => true
  | .example _ stmts want =>
    (match stmts with
     | [] => false
     | s :: ss => stmtOk1B s && ss.all fun s' => stmtOk1B s' || stmtOk2B s') &&
    want.all wantOkB && stmts.all contOrdered

/-- the conditions of `Block.WellFormed` on one statement, decided -/
def stmtOkB : List Str → Bool
  | [] => false
  | first :: rest =>
    startsWith ">>> ".toList first &&
    rest.all (fun l => startsWith ">>> ".toList l || startsWith "... ".toList l) &&
    Lexer.isBalanced ((first :: rest).map (·.drop 4)) &&
    (List.range (first :: rest).length).all
      (fun n => n == 0 || !Lexer.isBalanced (((first :: rest).take n).map (·.drop 4)))

/-- `Block.WellFormed ∧ Block.ContOrdered`, decided -/
def Block.check : Block → Bool
  | .prose ls => ls.all fun l => !(strip l).isEmpty && !hasPrefix (strip l) [ps1]
  | .blank _ => true
  | .example _ stmts want =>
    !stmts.isEmpty && stmts.all (fun s => stmtOkB s && contOrdered s) && want.all wantOkB

def separatedB : List Block → Bool
  | [] => true
  | b :: rest =>
    (match b, rest with
     | .example _ _ _, .blank (_ + 1) :: _ => true
     | .example _ _ _, _ :: _ => false
     | _, _ => true) && separatedB rest

def separatedGB : List Block → Bool
  | [] => true
  | b :: rest =>
    (match b, rest with
     | .example _ _ _, .blank (_ + 1) :: _ => true
     | .example k _ want, .example k' _ _ :: _ => !want.isEmpty || k' == k
     | .example _ _ _, _ :: _ => false
     | _, _ => true) && separatedGB rest

theorem prefixes_unbalanced {s : List Str}
    (h : ∀ n ∈ List.range s.length,
      (n == 0) = true ∨ (!Lexer.isBalanced ((s.take n).map (·.drop 4))) = true) :
    ∀ n, 0 < n → n < s.length → Lexer.isBalanced ((s.take n).map (·.drop 4)) = false := by
  intro n h0 hn
  simpa [Nat.ne_of_gt h0] using h n (List.mem_range.mpr hn)

theorem stmtCoreB_sound {s : List Str} (h : stmtCoreB s = true) : StmtCore s := by
  simp only [stmtCoreB, Bool.and_eq_true, List.all_eq_true, Bool.or_eq_true] at h
  exact ⟨h.1.1, h.1.2, prefixes_unbalanced h.2⟩

theorem stmtOk1B_sound {s : List Str} (h : stmtOk1B s = true) : StmtOk1 s := by
  cases s with
  | nil => cases h
  | cons first rest =>
    simp only [stmtOk1B, Bool.and_eq_true] at h
    exact ⟨first, rest, rfl, h.1, stmtCoreB_sound h.2⟩

theorem stmtOk2B_sound {s : List Str} (h : stmtOk2B s = true) : StmtOk2 s := by
  cases s with
  | nil => cases h
  | cons first rest =>
    simp only [stmtOk2B, Bool.and_eq_true, Bool.not_eq_true', beq_eq_false_iff_ne] at h
    exact ⟨first, rest, rfl, h.1.1, h.1.2, stmtCoreB_sound h.2⟩

theorem wantOkB_sound {w : Str} (h : wantOkB w = true) : WantOk w := by
  simp only [wantOkB, Bool.and_eq_true, Bool.not_eq_true', beq_iff_eq] at h
  exact ⟨h.1.1.1, h.1.1.2, h.1.2, h.2⟩

theorem Block.checkG_sound {b : Block} (h : b.checkG = true) : b.WellFormedG ∧ b.ContOrdered := by
  cases b with
  | prose ls =>
    simp only [Block.checkG, List.all_eq_true, Bool.not_eq_true'] at h
    exact ⟨h, trivial⟩
  | blank n => exact ⟨trivial, trivial⟩
  | «example» k stmts want =>
    cases stmts with
    | nil => cases h
    | cons s ss =>
      simp only [Block.checkG, Bool.and_eq_true, List.all_eq_true, Bool.or_eq_true] at h
      obtain ⟨⟨⟨h1, h2⟩, h3⟩, h4⟩ := h
      exact ⟨⟨⟨s, ss, rfl, stmtOk1B_sound h1, fun s' hs' => (h2 s' hs').imp stmtOk1B_sound stmtOk2B_sound⟩,
        fun w hw => wantOkB_sound (h3 w hw)⟩, h4⟩

theorem stmtOkB_sound {s : List Str} (h : stmtOkB s = true) :
    ∃ first rest, s = first :: rest ∧ startsWith ">>> ".toList first = true ∧
      (∀ l ∈ rest, startsWith ">>> ".toList l = true ∨ startsWith "... ".toList l = true) ∧
      Lexer.isBalanced (s.map (·.drop 4)) = true ∧
      ∀ n, 0 < n → n < s.length → Lexer.isBalanced ((s.take n).map (·.drop 4)) = false := by
  cases s with
  | nil => cases h
  | cons first rest =>
    simp only [stmtOkB, Bool.and_eq_true, List.all_eq_true, Bool.or_eq_true] at h
    exact ⟨first, rest, rfl, h.1.1.1, h.1.1.2, h.1.2, prefixes_unbalanced h.2⟩

theorem Block.check_sound {b : Block} (h : b.check = true) : b.WellFormed ∧ b.ContOrdered := by
  cases b with
  | prose ls =>
    simp only [Block.check, List.all_eq_true, Bool.and_eq_true, Bool.not_eq_true'] at h
    exact ⟨h, trivial⟩
  | blank n => exact ⟨trivial, trivial⟩
  | «example» k stmts want =>
    simp only [Block.check, Bool.and_eq_true, List.all_eq_true, Bool.not_eq_true'] at h
    obtain ⟨⟨h1, h2⟩, h3⟩ := h
    exact ⟨⟨fun hnil => (by rw [hnil] at h1; cases h1), fun s hs => stmtOkB_sound (h2 s hs).1,
      fun w hw => wantOkB_sound (h3 w hw)⟩, fun s hs => (h2 s hs).2⟩

/-- a Boolean recursion that checks every block against its successor is sound for the statement
    about all neighbours -/
theorem neighbours_of_check {R : Block → Block → Prop} {f : List Block → Bool}
    (hf : ∀ x y tl, f (x :: y :: tl) = true → R x y) (htl : ∀ x tl, f (x :: tl) = true → f tl = true)
    {bs : List Block} (h : f bs = true) (pre : List Block) {x y : Block} {rest : List Block}
    (e : bs = pre ++ x :: y :: rest) : R x y := by
  induction pre generalizing bs with
  | nil => subst e; exact hf x y rest h
  | cons p pre ih => subst e; exact ih (htl _ _ h) rfl

theorem separatedB_sound {bs : List Block} (h : separatedB bs = true) : Separated bs := by
  intro pre k stmts want b rest e
  -- `separatedB` tests each block against its successor and recurses on the tail
  -- (`neighbours_of_check`); what is left is to read the test on one pair, by cases on the successor
  refine neighbours_of_check (f := separatedB)
    (R := fun x y => ∀ k s w, x = .example k s w → ∃ n, y = .blank (n + 1)) ?_ ?_ h pre e k stmts want rfl
  · rintro x y tl hx k s w rfl
    simp only [separatedB, Bool.and_eq_true] at hx
    have h1 := hx.1
    cases y with
    | blank n =>
      cases n with
      | zero => cases h1
      | succ n => exact ⟨n, rfl⟩
    | prose ls => cases h1
    | «example» k' s' w' => cases h1
  · intro x tl hx
    simp only [separatedB, Bool.and_eq_true] at hx
    exact hx.2

theorem separatedGB_sound {bs : List Block} (h : separatedGB bs = true) : SeparatedG bs := by
  intro pre k stmts want b rest e
  refine neighbours_of_check (f := separatedGB)
    (R := fun x y => ∀ k s w, x = .example k s w →
      (∃ n, y = .blank (n + 1)) ∨ ∃ k' s' w', y = .example k' s' w' ∧ (w ≠ [] ∨ k' = k))
    ?_ ?_ h pre e k stmts want rfl
  · rintro x y tl hx k s w rfl
    simp only [separatedGB, Bool.and_eq_true] at hx
    have h1 := hx.1
    cases y with
    | blank n =>
      cases n with
      | zero => cases h1
      | succ n => exact Or.inl ⟨n, rfl⟩
    | prose ls => cases h1
    | «example» k' s' w' =>
      simp only [Bool.or_eq_true, Bool.not_eq_true', beq_iff_eq] at h1
      exact Or.inr ⟨k', s', w', rfl, h1.imp (fun h hw => by rw [hw] at h; cases h) id⟩
  · intro x tl hx
    simp only [separatedGB, Bool.and_eq_true] at hx
    exact hx.2

theorem labels_are_intended_checked (bs : List Block) (hc : bs.all Block.check = true)
    (hs : separatedB bs = true) :
    ∃ out, labelLines (bs.flatMap Block.render) = .ok out ∧ out.map (·.1) = bs.flatMap Block.intended :=
  labels_are_intended bs (fun b hb => Block.check_sound (List.all_eq_true.mp hc b hb)) (separatedB_sound hs)

theorem labels_are_intended_general_checked (bs : List Block) (hc : bs.all Block.checkG = true)
    (hs : separatedGB bs = true) :
    ∃ out, labelLines (bs.flatMap Block.render) = .ok out ∧ out.map (·.1) = bs.flatMap Block.intended :=
  labels_are_intended_general bs (fun b hb => Block.checkG_sound (List.all_eq_true.mp hc b hb))
    (separatedGB_sound hs)

def exBlocks : List Block :=
  [.prose ["intro text".toList],
   .example 4 [[">>> x = [1,".toList, "...      2,".toList, "...      3]".toList],
               [">>> print(x,".toList, ">>>       sep='')".toList]]
     ["[1, 2, 3]".toList, "and more".toList],
   .blank 2,
   .example 0 [[">>> y = 1".toList]] [],
   .blank 1,
   .prose ["  the end".toList, "...".toList]]

theorem exBlocks_check : exBlocks.all Block.check = true := by unfold exBlocks Block.check stmtOkB; decide_lits
theorem exBlocks_sep : separatedB exBlocks = true := by decide +kernel
example : exBlocks.all Block.check = true := exBlocks_check
example : separatedB exBlocks = true := exBlocks_sep
example : ∀ b ∈ exBlocks, b.WellFormed ∧ b.ContOrdered :=
  fun b hb => Block.check_sound (List.all_eq_true.mp exBlocks_check b hb)
example : Separated exBlocks := separatedB_sound exBlocks_sep
example : exBlocks.flatMap Block.intended =
    [.text, .dsrc, .dcnt, .dcnt, .dsrc, .dsrc, .want, .want, .text, .text, .dsrc, .text, .text, .text] := by
  unfold exBlocks; decide_lits
example : (labelLines (exBlocks.flatMap Block.render)).toOption.map (·.map (·.1)) =
    some (exBlocks.flatMap Block.intended) := by
  obtain ⟨out, h1, h2⟩ := labels_are_intended_checked exBlocks exBlocks_check exBlocks_sep
  rw [h1, ← h2]; rfl

/-- the larger grammar: `>>> def` / `... body` (two "statements" for the tokenizer), a bare `>>>`,
    an old-style continuation line, and example blocks that follow each other directly — after a
    want at another indentation, after source at the same indentation -/
def exBlocksG : List Block :=
  [.example 2 [[">>> def f():".toList], ["...     return 1".toList], [">>>".toList],
               [">>> x = [1,".toList, "     2]".toList]]
     ["out".toList],
   .example 0 [[">>> f()".toList]] [],
   .example 0 [[">>> g(".toList, "... )".toList]] ["1".toList],
   .blank 1,
   .prose ["".toList, "text".toList]]

theorem exBlocksG_check : exBlocksG.all Block.checkG = true := by unfold exBlocksG; decide_lits
theorem exBlocksG_sep : separatedGB exBlocksG = true := by decide +kernel
example : exBlocksG.all Block.checkG = true := exBlocksG_check
example : separatedGB exBlocksG = true := exBlocksG_sep
example : exBlocksG.all Block.check = false := by decide +kernel
example : exBlocksG.flatMap Block.intended =
    [.dsrc, .dcnt, .dsrc, .dsrc, .dsrc, .want, .dsrc, .dsrc, .dcnt, .want, .text, .text, .text] := by
  unfold exBlocksG; decide_lits
example : (labelLines (exBlocksG.flatMap Block.render)).toOption.map (·.map (·.1)) =
    some (exBlocksG.flatMap Block.intended) := by
  obtain ⟨out, h1, h2⟩ := labels_are_intended_general_checked exBlocksG exBlocksG_check exBlocksG_sep
  rw [h1, ← h2]; rfl

def cexBlocks : List Block :=
  [.example 2 [[">>> x = [".toList, "... 1,".toList, ">>> 2]".toList]] ["w".toList]]

/-- the original side conditions hold for the counterexample (below), the added one does not -/
example : cexBlocks.all Block.check = false := by unfold cexBlocks Block.check stmtOkB; decide_lits

theorem cexBlocks_wf : ∀ b ∈ cexBlocks, b.WellFormed := by
  intro b hb
  obtain rfl := List.mem_singleton.mp hb
  refine ⟨by simp, ?_, ?_⟩
  · intro s hs
    obtain rfl := List.mem_singleton.mp hs
    exact stmtOkB_sound (by decide_lits)
  · intro w hw
    obtain rfl := List.mem_singleton.mp hw
    decide_lits

theorem cexBlocks_sep : Separated cexBlocks := separatedB_sound (by decide +kernel)

/-- ✗ `labels_are_intended_statement` (as given in `Proofs/C13.lean`) does not hold -/
theorem labels_are_intended_statement_false : ¬ labels_are_intended_statement := by
  intro h
  obtain ⟨out, h1, h2⟩ := h cexBlocks cexBlocks_wf cexBlocks_sep
  obtain ⟨out', h1', h2'⟩ := labels_are_actual cexBlocks cexBlocks_wf cexBlocks_sep
  rw [h1] at h1'; cases h1'
  -- the labels are `Block.actual`, and that differs from `Block.intended` in the third line
  rw [h2] at h2'
  revert h2'; decide +kernel

/-- `Block.actual` on the counterexample: the third line is `dcnt` -/
example : cexBlocks.flatMap Block.actual = [.dsrc, .dcnt, .dcnt, .want] := by unfold cexBlocks; decide_lits

end Xdoc.C13
