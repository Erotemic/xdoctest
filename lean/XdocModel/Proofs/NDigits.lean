import XdocModel.Lemmas.Format
/-!
# C18 — `nDigits` is exactly `⌈log₁₀ (max 1 endline)⌉`

`le_pow_nDigits` shows the computed width is large enough; here: it is the LEAST such exponent
(`nDigits_minimal`), hence characterised uniquely (`nDigits_eq_iff`) — the integer meaning of
`int(math.ceil(math.log(max(1, endline), 10)))` in `DocTest.format_src` — with the closed forms at
the powers of ten, where the float computation is delicate (`nDigits_pow`, `nDigits_pow_succ`).
-/
namespace Xdoc.C18
open Xdoc Py Format

/-- ★ no smaller width would do: below `nDigits n` every power of ten is `< max 1 n` -/
theorem nDigits_minimal (n d : Nat) (h : d < nDigits n) : 10 ^ d < max 1 n :=
  (nDigits_spec n).2 d h

/-- ★ `nDigits n = d` iff `d` is the least exponent with `max 1 n ≤ 10^d` -/
theorem nDigits_eq_iff (n d : Nat) :
    nDigits n = d ↔ (max 1 n ≤ 10 ^ d ∧ ∀ d' < d, 10 ^ d' < max 1 n) := by
  obtain ⟨hle, hmin⟩ := nDigits_spec n
  constructor
  · rintro rfl; exact ⟨hle, hmin⟩
  · rintro ⟨h1, h2⟩
    rcases Nat.lt_trichotomy (nDigits n) d with h | h | h
    · have := h2 _ h; omega
    · exact h
    · have := hmin d h; omega

/-- ★ at a power of ten the width is the exponent (`999 → 3`, `1000 → 3`, `1001 → 4`) -/
theorem nDigits_pow (k : Nat) : nDigits (10 ^ k) = k := by
  rw [nDigits_eq_iff]
  have h1 : 1 ≤ 10 ^ k := Nat.pow_pos (by omega)
  refine ⟨by omega, fun d' hd' => ?_⟩
  have : 10 ^ d' < 10 ^ k := Nat.pow_lt_pow_right (by omega) hd'
  omega

/-- ★ … and just above a power of ten one more (`1001 ↦ 4`) -/
theorem nDigits_pow_succ (k : Nat) : nDigits (10 ^ k + 1) = k + 1 := by
  rw [nDigits_eq_iff]
  have h1 : 1 ≤ 10 ^ k := Nat.pow_pos (by omega)
  have h2 : 10 ^ (k + 1) = 10 * 10 ^ k := by rw [Nat.pow_succ, Nat.mul_comm]
  refine ⟨by omega, fun d' hd' => ?_⟩
  have : 10 ^ d' ≤ 10 ^ k := Nat.pow_le_pow_right (by omega) (by omega)
  omega

example : nDigits 0 = 0 ∧ nDigits 1 = 0 ∧ nDigits 9 = 1 ∧ nDigits 10 = 1 ∧ nDigits 11 = 2 ∧ nDigits 1000 = 3 := by
  decide +kernel

end Xdoc.C18
