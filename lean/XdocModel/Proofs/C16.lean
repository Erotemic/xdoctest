import XdocModel.Lemmas.Dynamic
import XdocModel.Proofs.C07
/-!
# C16 — static and dynamic analysis find the same doctests

`static_eq_dynamic`: for every module of the fragment, the `(callname, docstring)` pairs collected
by the model of the AST visitor equal — as LISTS, hence as sets — the pairs collected by the model
of the `__dict__` walk on the object graph that importing the module builds. The doctests of a
calldef are a function of `(callname, docstring, style)` (`Core.parseDocstrExamples`), so equal
pairs give equal identifiers `callname:num` and equal doctest sources.

Outside the model: that importing a module of the fragment builds `execModule` (CPython; link 3
of the correspondence compares it with `vars()` of the imported module on every generated file),
and the import machinery itself.
-/
namespace Xdoc.C16
open Xdoc Py Static Dynamic

/-- the fragment: definitions under one name each, every branch that holds definitions executed by the import,
    decorators that keep `__module__`, and distinct names in the module scope and in every class scope -/
structure InFragment (modname other : Str) (m : Module) : Prop where
  otherModule : other ≠ modname
  shape : inFragment false m.body = true
  topDistinct : ((bindsTop modname other m.body).map (·.1)).Nodup
  classDistinct : classScopesDistinct modname other m.body = true

instance (modname other : Str) (m : Module) : Decidable (InFragment modname other m) :=
  if h : other ≠ modname ∧ inFragment false m.body = true ∧
      ((bindsTop modname other m.body).map (·.1)).Nodup ∧ classScopesDistinct modname other m.body = true
  then isTrue ⟨h.1, h.2.1, h.2.2.1, h.2.2.2⟩
  else isFalse fun hf => h ⟨hf.otherModule, hf.shape, hf.topDistinct, hf.classDistinct⟩

/-- ★ `fragmentOk_iff`: the fragment of `static_eq_dynamic` is a decidable predicate -/
theorem fragmentOk_iff (modname other : Str) (m : Module) :
    fragmentOk modname other m = true ↔ InFragment modname other m := by
  simp only [fragmentOk, Bool.and_eq_true, decide_eq_true_eq]
  constructor
  · rintro ⟨⟨⟨a, b⟩, c⟩, d⟩; exact ⟨a, b, c, d⟩
  · intro h; exact ⟨⟨⟨h.otherModule, h.shape⟩, h.topDistinct⟩, h.classDistinct⟩

/-- ★ **static = dynamic** on the fragment: same callnames with the same docstrings, in the same
    order. -/
theorem static_eq_dynamic (loc : Locator) (modname other : Str) (m : Module)
    (h : InFragment modname other m) :
    pairs (visitModule loc m) = dynamicCollect (execModule modname other m) := by
  -- the same entries inserted in the same order: static is `insertAll` of `topLevel`; dynamic is the dict built
  -- from `bindsTop`, which for distinct names is `bindsTop` itself; `entries_eq_topLevel` identifies the two lists
  rw [C07.collect_eq_fold, pairs_insertAll, pairs_moduleEntry]
  unfold dynamicCollect execModule
  simp only
  have hs : setAll (bindsTop modname other m.body) [] = bindsTop modname other m.body := by
    rw [setAll_of_nodup (by simpa using h.topDistinct)]; simp
  rw [inFragment_noAlias false m.body h.shape]
  simp only [applyAliases, List.foldl_nil]
  rw [hs, entries_eq_topLevel loc modname other h.otherModule m.body h.shape h.classDistinct]

theorem static_eq_dynamic_mem (loc : Locator) (modname other : Str) (m : Module)
    (h : InFragment modname other m) (k : Str) (d : Option Str) :
    (k, d) ∈ pairs (visitModule loc m) ↔ (k, d) ∈ dynamicCollect (execModule modname other m) := by
  rw [static_eq_dynamic loc modname other m h]

/-- non-vacuity: module docstring, decorated async function, class with static method, property
    with setter, nested class, definitions inside an executed `try` body, an imported name, a main
    guard that is not executed, with an `else` branch that is; `f` is wrapped by a decorator imported from the
    other module. -/
def demoModule : Module :=
  { doc := some ⟨"m".toList, 1, 1⟩,
    body :=
      .imp "join".toList <|
      .func true "f".toList [.ext "ext_deco".toList] (some ⟨"d".toList, 3, 3⟩) (.func false "inner".toList [] none .done .done) <|
      .cls "C".toList [] (some ⟨"c".toList, 5, 5⟩)
        (.func false "s".toList [.name "staticmethod".toList] (some ⟨"sd".toList, 7, 7⟩) .done <|
         .func false "p".toList [.name "property".toList] (some ⟨"g".toList, 9, 9⟩) .done <|
         .func false "p".toList [.attr "setter".toList] none .done <|
         .cls "N".toList [] none (.func false "x".toList [] none .done .done) .done) <|
      .comp true (.func false "g".toList [] none .done .done) <|
      .comp false (.other .done) <|
      .ifs { isCompare := true, op0Eq := true, leftId := some "__name__".toList, comp0 := some "__main__".toList } false true
        (.func false "hidden".toList [] none .done .done)
        (.func false "onimport".toList [] (some ⟨"o".toList, 30, 30⟩) .done .done) .done }

example : InFragment "mod".toList "posixpath".toList demoModule := by decide +kernel
example : dynamicCollect (execModule "mod".toList "posixpath".toList demoModule) =
    [("__doc__".toList, some "m".toList), ("f".toList, some "d".toList), ("C".toList, some "c".toList),
     ("C.s".toList, some "sd".toList), ("C.p".toList, some "g".toList), ("g".toList, none), ("onimport".toList, some "o".toList)] := by decide +kernel

/-- a function wrapped by a `functools.wraps` decorator imported from another module: its `__globals__` name the
    OTHER module, its `__module__` this one — `is_defined_by_module` accepts it on `__module__` alone -/
example : (funcItem "mod".toList "helper".toList [.ext "ext_deco".toList] none).target.globalsName = some "helper".toList ∧
    definedBy "mod".toList (funcItem "mod".toList "helper".toList [.ext "ext_deco".toList] none).target = true := by decide +kernel

/-- outside the fragment the two collectors really differ: a definition in a branch the import
    does not execute is seen by the static collector only -/
def unexecuted : Module :=
  { doc := none,
    body := .ifs { isCompare := false, op0Eq := false, leftId := none, comp0 := none } false true (.func false "f".toList [] none .done .done) .done .done }

example : ¬ InFragment "mod".toList "o".toList unexecuted := by decide +kernel
example : pairs (visitModule (fun _ => none) unexecuted) ≠
    dynamicCollect (execModule "mod".toList "o".toList unexecuted) := by decide +kernel

/-- a second name for a class (`Alias = C`): the static collector keeps the `def`/`class` statements only, the dynamic
    walk goes by the KEYS of the module dict and reports the class and its methods under both names -/
def aliased : Module :=
  { doc := none,
    body := .cls "C".toList [] (some ⟨"c".toList, 2, 2⟩) (.func false "m".toList [] (some ⟨"d".toList, 4, 4⟩) .done .done) <|
            .alias "Alias".toList "C".toList .done }

example : ¬ InFragment "mod".toList "o".toList aliased := by decide +kernel
example : pairs (visitModule (fun _ => none) aliased) = [("C".toList, some "c".toList), ("C.m".toList, some "d".toList)] := by decide +kernel
example : dynamicCollect (execModule "mod".toList "o".toList aliased) =
    [("C".toList, some "c".toList), ("C.m".toList, some "d".toList),
     ("Alias".toList, some "c".toList), ("Alias.m".toList, some "d".toList)] := by decide +kernel

end Xdoc.C16
