import XdocModel.Proofs.C06
/-!
# C06 — corollaries of the specification a user relies on directly

`...` alone matches every output (including the empty one and multi-line text); a want of two pieces
`a...b` is "starts with a, ends with b, and is long enough for both" (with `b` or `a` empty: "starts
with", "ends with") — for ALL texts `got` (no evaluation of the matcher on samples). The literal wants
are evaluated by the kernel only to obtain their split.
-/
namespace Xdoc.C06
open Xdoc Py Re

/-- ★ whenever the want splits into exactly two pieces, matching is "starts with the first, ends with the
    last, without overlap" -/
theorem two_pieces_iff (got want first last : Str) (hd : contains dots want = true)
    (hs : splitEllipsis want = [first, last]) :
    ellipsisMatch got want = true ↔ ∃ mid, got = first ++ mid ++ last := by
  rw [ellipsis_iff_spec got want hd]
  constructor
  · rintro ⟨f, mids, l, he, mid, h, _⟩
    rw [hs] at he
    -- `[first, last] = f :: (mids ++ [l])`: no middle piece
    cases mids with
    | nil => cases he; exact ⟨mid, h⟩
    | cons m ms => cases ms <;> simp at he
  · rintro ⟨mid, h⟩
    exact ⟨first, [], last, hs, mid, h, .nil _⟩

/-- ★ a want that is just `...` accepts every output -/
theorem bare_ellipsis_matches_everything (got : Str) : ellipsisMatch got dots = true :=
  (two_pieces_iff got dots [] [] (by decide +kernel) (by decide +kernel)).mpr ⟨got, by simp⟩

/-- ★ `...` surrounded by blanks and line breaks is still only a wildcard -/
theorem padded_ellipsis_matches_everything (got : Str) : ellipsisMatch got " \n... \n".toList = true :=
  (two_pieces_iff got _ [] [] (by decide_lits) (by decide_lits)).mpr ⟨got, by simp⟩

/-- ★ no overlap: the output must be at least as long as the two pieces together (`aa...aa` does not
    match `aaa`) -/
theorem two_pieces_length (got want first last : Str) (hd : contains dots want = true)
    (hs : splitEllipsis want = [first, last]) (hm : ellipsisMatch got want = true) :
    first.length + last.length ≤ got.length := by
  obtain ⟨mid, rfl⟩ := (two_pieces_iff got want first last hd hs).mp hm
  simp only [List.length_append]; omega

example : ellipsisMatch "".toList dots = true := bare_ellipsis_matches_everything _
example : ¬ (ellipsisMatch "aaa".toList "aa...aa".toList = true) := by
  intro h
  have := two_pieces_length "aaa".toList "aa...aa".toList "aa".toList "aa".toList (by decide_lits) (by decide_lits) h
  simp at this

end Xdoc.C06
