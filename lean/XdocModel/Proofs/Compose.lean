import XdocModel.Lemmas.Compose
import XdocModel.Proofs.C01
import XdocModel.Proofs.C08
import XdocModel.Proofs.C13
import XdocModel.CoreExamples
import XdocModel.Proofs.C18Labels
/-!
# Compositions — theorems of one cluster whose hypothesis is a theorem of another cluster

C08 ∘ C13 (∘ C01) : parse, then locate. C08 proves the line arithmetic of the freeform collection for
every list of pieces that is `Tiled` (hypothesis); C13 proves that the parser's output `Tiles` the
docstring. `Tiles` is weaker in two places (findings about the statements, not about the code):
* a text piece `'\n'.join(ls)` counts as `count('\n') + 1` lines in the freeform loop; that is
  `ls.length` only when `ls ≠ []` and no line contains `\n`. Both hold for the parser.
* `Covers` fixes `line_offset` only for parts that have a first line. A part with no line at a wrong
  offset is possible in the MODEL when the oracle `ChunkFacts` names a statement start beyond the chunk
  (`tiled_needs_facts_in_range`). CPython never does: hypothesis `FactsOk`, under which C01's
  `part_offsets` gives the missing clause.
-/
namespace Xdoc.Compose
open Xdoc Py Parser Core

/-- C01's `FactsInRange` for every code chunk, the facts being consumed in order as `packageGroups`
    consumes them -/
def FactsInRangeAll : List Chunk → List ChunkFacts → Prop
  | [], _ => True
  | .text _ :: cs, fs => FactsInRangeAll cs fs
  | .code src _ :: cs, f :: fs => C01.FactsInRange f src.length ∧ FactsInRangeAll cs fs
  | .code _ _ :: cs, [] => FactsInRangeAll cs []

/-- what CPython guarantees about the oracle answers for a docstring: the statement starts it
    reports for a chunk are lines of that chunk -/
def FactsOk (docstr : Str) (facts : List ChunkFacts) : Prop :=
  ∀ chunks, chunksOf docstr = .ok chunks → FactsInRangeAll chunks facts

theorem packageGroups_exactTiles {cs : List Chunk} {fs : List ChunkFacts} {o : Nat} {ps : List Piece}
    (h : packageGroups cs fs o = .ok ps) (ht : TextNonempty cs) (hf : FactsInRangeAll cs fs) :
    ExactTiles ps o (cs.flatMap chunkLines) := by
  revert ht hf
  refine packageGroups_ok_induct ?_ ?_ ?_ h
  · exact fun fs o _ _ => .nil o
  · intro ls cs fs o rest ih ht hf
    exact .text (ht ls (by simp)) (ih (fun l hl => ht l (List.mem_cons_of_mem _ hl)) hf)
  · intro src want cs f fs o parts rest hparts ih ht hf
    simpa [chunkLines] using ExactTiles.code (packageChunk_tiles hparts) (C01.part_offsets hparts hf.1)
      (ih (fun l hl => ht l (List.mem_cons_of_mem _ hl)) hf.2)

/-- ★ C13 ⟶ C08: for EVERY docstring and every in-range answer of the CPython oracle on which the
    model parser succeeds, the pieces it returns — seen as the freeform loop sees them — are `Tiled`
    from line 0: every part's `line_offset` is the number of lines (text pieces: `count('\n') + 1`,
    parts: `n_lines`) of all pieces before it. This discharges the hypothesis `ht` of C08. -/
theorem parse_tiled (docstr : Str) (facts : List ChunkFacts) (ps : List Piece)
    (h : parse docstr facts = .ok ps) (hf : FactsOk docstr facts) :
    Tiled 0 (toFPieces ps) := by
  obtain ⟨chunks, hco, hp⟩ := parse_ok_iff.mp h
  obtain ⟨labeled, hl, hg⟩ := chunksOf_ok_iff.mp hco
  refine tiled_of_exactTiles (packageGroups_exactTiles hp (groupLines_textNonempty hg) (hf chunks hco))
    fun l hlm => ?_
  rw [groupLines_flat hg] at hlm
  exact (labelLines_plain hl l hlm).1.no_nl

/-- ★ `parse_then_lineno` (first half, C08 `freeform_offset_is_first_part_offset` with the parser
    in front): the doctest collected from a parsed docstring is reported at
    `lineno + line_offset of the first kept part`, and no kept part lies before it -/
theorem parse_then_lineno (docstr : Str) (facts : List ChunkFacts) (ps : List Piece)
    (callname : Str) (lineno : Nat) (e : Ex)
    (h : parse docstr facts = .ok ps) (hf : FactsOk docstr facts)
    (he : e ∈ freeform (toFPieces ps) callname lineno) :
    ∃ p0 rest, ((toFPieces ps).foldl fstep {}).curParts = p0 :: rest ∧
      e.lineno = lineno + p0.lineOffset ∧ e.num = 0 ∧ e.parts = some (rebase (p0 :: rest)) ∧
      ∀ p ∈ p0 :: rest, p0.lineOffset ≤ p.lineOffset :=
  C08.freeform_offset_is_first_part_offset (toFPieces ps) callname lineno e
    (parse_tiled docstr facts ps h hf) he

/-- ★ `parse_then_lineno` (second half, C08 `part_line_is_file_line_freeform` with the parser in
    front): for a docstring literal laid out on the file lines from `a` on, the docstring line at
    which the parser placed the `k`-th kept part is the text of file line number
    `e.lineno + (re-based line_offset)`; the first kept part has offset 0 -/
theorem parse_then_file_line (F : List Str) (a : Nat) (docstr : Str) (facts : List ChunkFacts)
    (ps : List Piece) (callname : Str) (e : Ex)
    (hlay : C08.LiteralLayout F a docstr)
    (h : parse docstr facts = .ok ps) (hf : FactsOk docstr facts)
    (he : e ∈ freeform (toFPieces ps) callname (a + 1)) :
    ∃ orig reb, ((toFPieces ps).foldl fstep {}).curParts = orig ∧ e.parts = some reb ∧
      reb.length = orig.length ∧
      (∀ p', reb[0]? = some p' → p'.lineOffset = 0) ∧
      ∀ (k : Nat) (p p' : Part) (l : Str), orig[k]? = some p → reb[k]? = some p' →
        (splitOn '\n' docstr)[p.lineOffset]? = some l →
        ∃ fl, F[e.lineno + p'.lineOffset - 1]? = some fl ∧ l <:+: fl :=
  C08.part_line_is_file_line_freeform F a docstr callname (toFPieces ps) e hlay
    (parse_tiled docstr facts ps h hf) he

def factsInRangeB : ChunkFacts → Nat → Bool
  | .syntaxError, _ => true
  | .parsed starts _, n => starts.all (· ≤ n)

def factsInRangeAllB : List Chunk → List ChunkFacts → Bool
  | [], _ => true
  | .text _ :: cs, fs => factsInRangeAllB cs fs
  | .code src _ :: cs, f :: fs => factsInRangeB f src.length && factsInRangeAllB cs fs
  | .code _ _ :: cs, [] => factsInRangeAllB cs []

theorem factsInRange_of_b {f : ChunkFacts} {n : Nat} (h : factsInRangeB f n = true) : C01.FactsInRange f n := by
  intro starts e hf s hs
  subst hf
  simp only [factsInRangeB, List.all_eq_true, decide_eq_true_eq] at h
  exact h s hs

theorem factsInRangeAll_of_b {cs : List Chunk} {fs : List ChunkFacts} (h : factsInRangeAllB cs fs = true) :
    FactsInRangeAll cs fs := by
  induction cs generalizing fs with
  | nil => trivial
  | cons c cs ih =>
    cases c with
    | text ls => exact ih h
    | code src want =>
      cases fs with
      | nil => exact ih h
      | cons f fs =>
        simp only [factsInRangeAllB, Bool.and_eq_true] at h
        exact ⟨factsInRange_of_b h.1, ih h.2⟩

theorem factsOk_of_b {docstr : Str} {facts : List ChunkFacts} {chunks : List Chunk}
    (hc : (chunksOf docstr).toOption = some chunks) (h : factsInRangeAllB chunks facts = true) :
    FactsOk docstr facts := by
  intro cs hcs
  rw [hcs] at hc
  simp only [Except.toOption, Option.some.injEq] at hc
  subst hc
  exact factsInRangeAll_of_b h

theorem factsOk_of_eval {docstr : Str} {facts : List ChunkFacts}
    (h : (chunksOf docstr).toOption.map (fun cs => factsInRangeAllB cs facts) = some true) :
    FactsOk docstr facts := by
  obtain ⟨cs, hcs, hb⟩ := exists_ok_of_map h
  exact factsOk_of_b (by rw [hcs]; rfl) hb

/-- one evaluation for the two examples below -/
theorem exDoc_parsed : ∃ ps, parse C13.exDoc C13.exFacts = .ok ps ∧
    (freeform (toFPieces ps) "f".toList 10).map
      (fun e => (e.lineno, (e.parts.getD []).map (·.lineOffset))) = [(11, [0, 2])] :=
  exists_ok_of_map (by unfold C13.exDoc; decide_lits)

/-- C13's example docstring (prose, a two-line statement, an expression with a want, prose) with
    the oracle answers CPython gives: the hypotheses of `parse_tiled` hold -/
example : C13.isOk (parse C13.exDoc C13.exFacts) = true ∧ FactsOk C13.exDoc C13.exFacts := by
  obtain ⟨ps, hps, _⟩ := exDoc_parsed
  exact ⟨by rw [hps]; rfl, factsOk_of_eval (by unfold C13.exDoc C13.exFacts; decide_lits)⟩

example : (match parse C13.exDoc C13.exFacts with
    | .ok ps => (freeform (toFPieces ps) "f".toList 10).map
        (fun e => (e.lineno, (e.parts.getD []).map (·.lineOffset)))
    | .error _ => []) = [(11, [0, 2])] := by
  obtain ⟨ps, hps, h⟩ := exDoc_parsed
  rw [hps]
  exact h

def layFile : List Str := ["def f():".toList, "    \"\"\"intro".toList, ">>> f()".toList, "1\"\"\"".toList]
def layDoc : Str := "intro\n>>> f()\n1".toList

example : C08.LiteralLayout layFile 1 layDoc :=
  C08.literalLayout_of_all (by unfold layFile layDoc; decide_lits)

/-- all hypotheses of `parse_then_file_line` together: it parses, the oracle answer is in range, and the
    doctest is reported at file line 3, where the prompt is -/
example : C13.isOk (parse layDoc [.parsed [0] true]) = true ∧ FactsOk layDoc [.parsed [0] true] ∧
    (match parse layDoc [.parsed [0] true] with
     | .ok ps => (freeform (toFPieces ps) "f".toList (1 + 1)).map (·.lineno)
     | .error _ => []) = [3] := by
  obtain ⟨ps, hps, h⟩ := exists_ok_of_map (e := parse layDoc [.parsed [0] true]) (b := [3])
    (f := fun ps => (freeform (toFPieces ps) "f".toList (1 + 1)).map (·.lineno))
    (by unfold layDoc; decide_lits)
  rw [hps]
  exact ⟨rfl, factsOk_of_eval (by unfold layDoc; decide_lits), h⟩

/-- the hypothesis `FactsOk` cannot be dropped: an oracle that reports a statement start beyond the
    chunk (CPython never does) makes the model parser emit an EMPTY part whose `line_offset` is not
    the number of lines before it — `Tiles` (C13) holds, `Tiled` (C08) does not -/
theorem tiled_needs_facts_in_range :
    ∃ ps, parse ">>> f()\n1".toList [.parsed [0, 5] true] = .ok ps ∧
      (toFPieces ps).map (fun p => match p with
          | .part q => (q.lineOffset, q.nLines) | .text _ => (0, 0)) = [(0, 1), (5, 1)] ∧
      ¬ Tiled 0 (toFPieces ps) := by
  have hp : (parse ">>> f()\n1".toList [.parsed [0, 5] true]).toOption.map
      (fun ps => ((toFPieces ps).map (fun p => match p with
          | .part q => (q.lineOffset, q.nLines) | .text _ => (0, 0)), decide (Tiled 0 (toFPieces ps)))) =
        some ([(0, 1), (5, 1)], false) := by
    decide_lits
  obtain ⟨ps, hps, hp⟩ := exists_ok_of_map hp
  rw [Prod.mk.injEq] at hp
  exact ⟨ps, hps, hp.1, of_decide_eq_false hp.2⟩

/-! C08's `part_line_is_file_line_freeform` speaks about "the docstring line at index `line_offset`".
That this line is the part's first source line is again C13 (`Covers`): -/

/-- ★ `parse_part_line`: for every part of a parsed docstring that has a first line, line number
    `line_offset` of the lines the labeller saw (`prepareLines`) IS that first line: `orig_lines[0]`
    is it, without the chunk's indentation `k` (and with the `... ` prompt inserted when the line is
    the inside of a triple-quoted string: `HackRel`) -/
theorem parse_part_line (docstr : Str) (facts : List ChunkFacts) (ps : List Piece)
    (h : parse docstr facts = .ok ps) (q : PPart) (hq : Piece.part q ∈ ps) (x : Str) (xs : List Str)
    (hx : q.part.origLines = some (x :: xs)) :
    ∃ k line raw, (prepareLines docstr)[q.part.lineOffset]? = some line ∧ HackRel line raw ∧
      x = raw.drop k := by
  obtain ⟨labeled, chunks, _, hrel, _, ht, hflat⟩ := C13.parse_partition docstr facts ps h
  obtain ⟨k, raw, _, h2, h3⟩ := tiles_part_line ht q hq x xs hx
  rw [hflat, Nat.sub_zero, List.getElem?_map, Option.map_eq_some_iff] at h2
  obtain ⟨p, hp, rfl⟩ := h2
  obtain ⟨line, hl, hr⟩ := Forall2.getElem? hrel _ p hp
  exact ⟨k, line, p.2, hl, hr.1, h3⟩

/-- finding (model AND code, checked on the library): the parser counts `str.splitlines()` lines and
    re-joins text with `\n`, the file and C08's `LiteralLayout` count `\n`. A form feed (or `\r`,
    `\x0b`, `\x1c`-`\x1e`, `\x85`, U+2028/9) inside the prose before a doctest therefore shifts the
    reported line: the prompt of `a\x0cb\n>>> f()` is on docstring line 1, `line_offset` is 2, a
    doctest collected at line 10 is reported at line 12, and docstring line 2 does not exist — the
    conclusion of `parse_then_file_line` is vacuous for such docstrings. -/
theorem lineno_counts_splitlines_witness :
    (parse "a\x0cb\n>>> f()".toList [.parsed [0] true]).toOption.map
      (fun ps => ((toFPieces ps).map (fun p => match p with
          | .part q => (q.lineOffset, q.nLines) | .text s => (0, countChar '\n' s + 1)),
        (freeform (toFPieces ps) "f".toList 10).map (·.lineno))) = some ([(0, 2), (2, 1)], [12]) ∧
    (splitOn '\n' "a\x0cb\n>>> f()".toList)[1]? = some ">>> f()".toList ∧
    (splitOn '\n' "a\x0cb\n>>> f()".toList)[2]? = none := by
  decide_lits

/-! C01 ∘ C13. `chunk_partition` is stated twice: C13 (`SrcTiles`: part by part, with offsets and wants)
and C01 (the `exec_lines` / `orig_lines` of all parts concatenate to the de-prompted / de-indented
source lines). The C13 form implies the C01 form (`SrcTiles.flatten`, which is how C01 proves it) and
the want clause of C01's `only_last_part_has_want`. -/

theorem chunkIndent_eq (src : List Str) : chunkIndentP src = chunkIndent src := rfl

theorem only_last_want_of_c13 {k : Nat} {want : List Str} {parts : List PPart} {o : Nat} {src : List Str}
    (h : SrcTiles k want parts o src) :
    ∃ init last, parts = init ++ [last] ∧ (∀ p ∈ init, p.part.wantLines = none) ∧
      last.part.wantLines = some (want.map (·.drop k)) := by
  induction h with
  | @last p _ _ _ hw => exact ⟨[], p, rfl, by simp, hw⟩
  | @cons p ps _ _ _ _ hw _ ih =>
    obtain ⟨init, last, h1, h2, h3⟩ := ih
    refine ⟨p :: init, last, by rw [h1]; rfl, ?_, h3⟩
    intro q hq
    rcases List.mem_cons.mp hq with rfl | hq
    · exact hw
    · exact h2 q hq

/-- ★ `chunk_partition_agree`: C01's form of `chunk_partition`, under this module's name; its link with C13's form
    is the remark above (`SrcTiles.flatten` is how C01 proves it) -/
theorem chunk_partition_agree {src want : List Str} {lineno : Nat} {facts : ChunkFacts} {parts : List PPart}
    (h : packageChunk src want lineno facts = .ok parts) :
    (parts.map (·.part.execLines)).flatten = C01.dePrompted src ∧
    (parts.map (fun p => p.part.origLines.getD [])).flatten = C01.sourceLinesOf src :=
  C01.chunk_partition h

/-- the de-prompted source lines of a chunk: what `exec` gets to see of it -/
def chunkProgram : Chunk → List Str
  | .text _ => []
  | .code src _ => C01.dePrompted src

open _root_.Xdoc.CoreExamples (partsOf)

theorem partsOf_append (a b : List Piece) : partsOf (a ++ b) = partsOf a ++ partsOf b := by
  simp [partsOf]

theorem partsOf_parts (parts : List PPart) : partsOf (parts.map Piece.part) = parts := by
  simp only [partsOf, List.filterMap_map, Function.comp_def, List.filterMap_some]

theorem packageGroups_program {cs : List Chunk} {fs : List ChunkFacts} {o : Nat} {ps : List Piece}
    (h : packageGroups cs fs o = .ok ps) :
    ((partsOf ps).map (·.part.execLines)).flatten = cs.flatMap chunkProgram := by
  refine packageGroups_ok_induct ?_ ?_ ?_ h
  · exact fun _ _ => rfl
  · intro ls cs fs o rest ih
    simpa [partsOf, chunkProgram] using ih
  · intro src want cs f fs o parts rest hparts ih
    rw [partsOf_append, partsOf_parts, List.map_append, List.flatten_append, ih,
      (C01.chunk_partition hparts).1]
    simp [chunkProgram]

/-- ★ `parse_exec_lines_are_program`: for every successfully parsed docstring, the `exec_lines` of
    all parts, concatenated in order, are exactly the de-prompted source lines of all code chunks
    of the docstring, in source order — each line once, none added, none moved, and no text or
    want line among them -/
theorem parse_exec_lines_are_program (docstr : Str) (facts : List ChunkFacts) (ps : List Piece)
    (h : parse docstr facts = .ok ps) :
    ∃ chunks, chunksOf docstr = .ok chunks ∧
      ((partsOf ps).map (·.part.execLines)).flatten = chunks.flatMap chunkProgram := by
  obtain ⟨chunks, hco, hp⟩ := parse_ok_iff.mp h
  exact ⟨chunks, hco, packageGroups_program hp⟩

/-- a parsed part as `DocTest.run` sees it; `dirs` = the directives the part reports (`part.directives`:
    the ones the parser attached, or extracted from the source on demand) -/
def toRunPart (dirs : PPart → List Directive) (q : PPart) : RunPart :=
  { part := q.part, directives := dirs q }

variable {Env : Type}

/-- ★ `parse_run_eq_program`: parse a docstring, run ALL its parts as one doctest. If no part is
    skipped and the loop is not left early, then for EVERY semantics `sem` of executing a part
    * the final environment is `foldl sem` over the parts in order, in ONE environment, each part
      exactly once (`executed = [0, …, n-1]`), the logged stdout is that of the plain program, and
    * the sources of those parts, concatenated in order, are the de-prompted source lines of the
      docstring's code chunks in source order (C13/C01 `chunk_partition`).
    That the statements inside one part run one after the other is CPython's `exec` (oracle `sem`). -/
theorem parse_run_eq_program (docstr : Str) (facts : List ChunkFacts) (ps : List Piece)
    (dirs : PPart → List Directive)
    (sat : Str → Option Bool) (sem : Env → Nat → RunPart → ExecResult × Env) (cfg : RunCfg) (env0 : Env)
    (h : parse docstr facts = .ok ps)
    (hend : (runLoop sat sem cfg { env := env0, rs := RState.init cfg.defaults } 0
      ((partsOf ps).map (toRunPart dirs))).2 = none)
    (hskip : (run sat sem cfg env0 ((partsOf ps).map (toRunPart dirs))).state.skipped = []) :
    let parts := (partsOf ps).map (toRunPart dirs)
    (run sat sem cfg env0 parts).state.env =
      (parts.foldl (fun (acc : Env × Nat) p => ((sem acc.1 acc.2 p).2, acc.2 + 1)) (env0, 0)).1 ∧
    (run sat sem cfg env0 parts).state.logged.map (·.2) = (C01.program sem env0 0 parts).2 ∧
    (run sat sem cfg env0 parts).state.executed = List.range parts.length ∧
    ∃ chunks, chunksOf docstr = .ok chunks ∧
      (parts.map (·.part.execLines)).flatten = chunks.flatMap chunkProgram := by
  intro parts
  obtain ⟨h1, h2, _, h4⟩ := C01.run_eq_program sat sem cfg env0 parts hend hskip
  obtain ⟨chunks, hc, hp⟩ := parse_exec_lines_are_program docstr facts ps h
  refine ⟨by rw [h1, C01.program_eq_foldl], h2, h4, chunks, hc, ?_⟩
  rw [← hp]
  simp [parts, toRunPart, List.map_map, Function.comp_def]

def exSem : Nat → Nat → RunPart → ExecResult × Nat := fun env i _ =>
  (.ok (if i = 1 then "[1, 2]\n".toList else []) .notEvaled, env + 1)

/-- non-vacuity of `parse_run_eq_program`: C13's example docstring, run with a counting semantics -/
example : C13.isOk (parse C13.exDoc C13.exFacts) = true ∧
    (match parse C13.exDoc C13.exFacts with
     | .ok ps =>
       let parts := (partsOf ps).map (toRunPart fun q => q.directives.getD [])
       decide ((runLoop (fun _ => none) exSem {} { env := 0, rs := RState.init [] } 0 parts).2 = none) &&
       decide ((run (fun _ => none) exSem {} 0 parts).state.skipped = []) &&
       decide ((run (fun _ => none) exSem {} 0 parts).state.env = 2) &&
       decide ((parts.map (·.part.execLines)).flatten =
         ["x = [1,".toList, "     2]".toList, "print(x)".toList])
     | .error _ => false) = true := by
  expose_lits C13.exDoc; expose_lits exSem; decide +kernel

/-! C18 ∘ C13. C18's `reparse_labels` takes the cleanliness of the parts, the absence of tabs and the
shape of the lines as hypotheses about an arbitrary part list. For the parts of a parsed docstring C13's
tiling gives the first two: every orig/want line is a line of `prepareLines` (minus indent). What stays a
hypothesis (`ReparseResidue`): the parts are not empty, no orig/want list ends with an empty line, and —
the acknowledged gap — the displayed lines are in the grammar of `C13Labels`. -/

/-- ★ `parsed_parts_plain`: every part of a parsed docstring has its `orig_lines`, its `exec_lines`
    are those lines without the 4-column prompt, and no orig or want line contains a line-break
    character or a tab -/
theorem parsed_parts_plain (docstr : Str) (facts : List ChunkFacts) (ps : List Piece)
    (h : parse docstr facts = .ok ps) (p : Part) (hp : p ∈ C18.partsOf ps) :
    (∃ ls, p.origLines = some ls ∧ p.execLines = ls.map (·.drop 4) ∧ ∀ l ∈ ls, PlainLine l) ∧
    ∀ l ∈ C18.wantOf p, PlainLine l := by
  obtain ⟨labeled, chunks, hl, _, _, ht, hflat⟩ := C13.parse_partition docstr facts ps h
  obtain ⟨x, hx, hxe⟩ := List.mem_filterMap.mp hp
  cases x with
  | text s => cases hxe
  | part q =>
    cases hxe
    exact tiles_part_lines plainLine_drop ht (hflat ▸ labelLines_plain hl) q hx

/-- what C13 does not give about the parts of a parsed doctest -/
structure ReparseResidue (parts : List Part) : Prop where
  nonempty : parts ≠ []
  hasLine : ∀ p ∈ parts, C18.origOf p ≠ []
  origLast : ∀ p ∈ parts, (C18.origOf p).getLast? ≠ some []
  wantLast : ∀ p ∈ parts, (C18.wantOf p).getLast? ≠ some []
  first : ∃ x ls, C18.shownLines parts = x :: ls ∧ hasPrefix x [ps1] = true

/-- C13 and the residue give the two hypotheses of C18 `reparse_labels` about the parts: clean, no tab -/
theorem parsed_parts_clean (docstr : Str) (facts : List ChunkFacts) (ps : List Piece)
    (h : parse docstr facts = .ok ps) (hr : ReparseResidue (C18.partsOf ps)) :
    (∀ p ∈ C18.partsOf ps, C18.CleanPart p) ∧
    (∀ p ∈ C18.partsOf ps, ∀ l ∈ C18.origOf p ++ C18.wantOf p, '\t' ∉ l) := by
  have key : ∀ p ∈ C18.partsOf ps,
      C18.CleanPart p ∧ ∀ l ∈ C18.origOf p ++ C18.wantOf p, '\t' ∉ l := by
    intro p hp
    obtain ⟨⟨ls, ho, _, hpl⟩, hw⟩ := parsed_parts_plain docstr facts ps h p hp
    have hne := hr.hasLine p hp
    have hlast := hr.origLast p hp
    simp only [C18.origOf, ho, Option.getD_some] at hne hlast ⊢
    obtain ⟨x, xs, rfl⟩ := List.exists_cons_of_ne_nil hne
    exact ⟨⟨⟨x, xs, ho, fun l hl => (hpl l hl).1, hlast⟩, fun l hl => (hw l hl).1, hr.wantLast p hp⟩,
      fun l hl => (List.mem_append.mp hl).elim (fun h => (hpl l h).2) (fun h => (hw l h).2)⟩
  exact ⟨fun p hp => (key p hp).1, fun p hp => (key p hp).2⟩

/-- ★ `reparse_labels_of_parse` (C18 `reparse_labels` ∘ C13): parse a docstring, display its parts
    with `format_src` (prompts and wants, no numbers), parse the display again. The labeller of the
    second parse receives exactly `orig_lines ++ want_lines`, part after part, and — whenever these
    lines are rendered by blocks of the grammar — labels them as intended; the executable lines of
    the first parse are the displayed source lines without their prompts. Cleanliness and absence of
    tabs are not hypotheses: they follow from the first parse. -/
theorem reparse_labels_of_parse (docstr : Str) (facts : List ChunkFacts) (ps : List Piece)
    (h : parse docstr facts = .ok ps) (hr : ReparseResidue (C18.partsOf ps))
    (bs : List C13.Block) (hbs : C18.shownLines (C18.partsOf ps) = bs.flatMap C13.Block.render)
    (hwf : ∀ b ∈ bs, b.WellFormedG ∧ b.ContOrdered) (hsep : C13.SeparatedG bs) :
    prepareLines (Format.formatSrc (C18.partsOf ps) 0 { linenos := false }) =
      C18.shownLines (C18.partsOf ps) ∧
    (∃ out, labelLines (prepareLines (Format.formatSrc (C18.partsOf ps) 0 { linenos := false })) = .ok out ∧
      out.map (·.1) = bs.flatMap C13.Block.intended) ∧
    ((C18.partsOf ps).map (·.execLines)).flatten =
      ((C18.partsOf ps).flatMap C18.origOf).map (·.drop 4) := by
  obtain ⟨hc, ht⟩ := parsed_parts_clean docstr facts ps h hr
  refine ⟨C18.prepareLines_formatSrc _ hc hr.nonempty ht hr.first,
    C18.reparse_labels _ hc hr.nonempty ht hr.first bs hbs hwf hsep, ?_⟩
  rw [List.map_flatMap, List.flatMap_def]
  congr 1
  refine List.map_congr_left fun p hp => ?_
  obtain ⟨⟨ls, ho, he, _⟩, _⟩ := parsed_parts_plain docstr facts ps h p hp
  rw [he, C18.origOf, ho, Option.getD_some]

/-- `>>> x = 1` / `>>> x` / `1`: parses into C18's example parts (up to the compile mode) -/
def reDoc : Str := ">>> x = 1\n>>> x\n1".toList
def reFacts : List ChunkFacts := [.parsed [0, 1] true]

theorem reDoc_parts : (parse reDoc reFacts).toOption.map
    (fun ps => (C18.partsOf ps).map (fun p => (p.origLines, p.wantLines))) =
    some [(some [">>> x = 1".toList], none), (some [">>> x".toList], some ["1".toList])] := by
  unfold reDoc; decide_lits

def residueB (parts : List Part) : Bool :=
  !parts.isEmpty &&
  parts.all (fun p => !(C18.origOf p).isEmpty && (C18.origOf p).getLast? != some [] &&
    (C18.wantOf p).getLast? != some []) &&
  (match C18.shownLines parts with | x :: _ => hasPrefix x [ps1] | [] => false)

theorem residue_of_b {parts : List Part} (h : residueB parts = true) : ReparseResidue parts := by
  simp only [residueB, Bool.and_eq_true, Bool.not_eq_eq_eq_not, Bool.not_true, List.isEmpty_eq_false_iff,
    List.all_eq_true, bne_iff_ne, ne_eq] at h
  obtain ⟨⟨h1, h2⟩, h3⟩ := h
  refine ⟨h1, fun p hp => (h2 p hp).1.1, fun p hp => (h2 p hp).1.2, fun p hp => (h2 p hp).2, ?_⟩
  cases hs : C18.shownLines parts with
  | nil => rw [hs] at h3; cases h3
  | cons x ls => rw [hs] at h3; exact ⟨x, ls, rfl, h3⟩

/-- non-vacuity of `reparse_labels_of_parse` -/
example : ∃ ps, parse reDoc reFacts = .ok ps ∧ ReparseResidue (C18.partsOf ps) ∧
    C18.shownLines (C18.partsOf ps) = C18.exBlocks.flatMap C13.Block.render ∧
    (∀ b ∈ C18.exBlocks, b.WellFormedG ∧ b.ContOrdered) ∧ C13.SeparatedG C18.exBlocks := by
  have hp : (parse reDoc reFacts).toOption.map (fun ps => residueB (C18.partsOf ps) &&
      decide (C18.shownLines (C18.partsOf ps) = C18.exBlocks.flatMap C13.Block.render)) = some true := by
    unfold reDoc; decide_lits
  obtain ⟨ps, hps, hp⟩ := exists_ok_of_map hp
  rw [Bool.and_eq_true, decide_eq_true_eq] at hp
  exact ⟨ps, hps, residue_of_b hp.1, hp.2,
    fun b hb => C13.Block.checkG_sound (List.all_eq_true.mp (by decide +kernel) b hb),
    C13.separatedGB_sound (by decide +kernel)⟩

end Xdoc.Compose
