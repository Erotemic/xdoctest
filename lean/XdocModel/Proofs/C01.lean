import XdocModel.Lemmas.Chunk
import XdocModel.Lemmas.Example
import XdocModel.Lemmas.Capture
/-!
# C01 — Doctest code runs exactly as written: each statement once, in order

Three groups of theorems, each for ALL inputs:

* the chunk splitter `Parser.packageChunk` (for every chunk and every answer `facts` of CPython's
  `ast.parse` on which it succeeds): the parts partition the de-prompted lines, cuts only at PS1
  lines that start a statement, only the last part has a want, offsets count the earlier lines;
* the run loop `Xdoc.runLoop` (for every execution oracle `sem`, requirement oracle `sat`,
  configuration): the environment is threaded through exactly the executed parts, each once, in
  order; with no skip and no early exit this is the plain program;
* `CaptureStdout` (for every interleaving of `start` / `write` / `exit`): the text logged by the
  i-th `exit` is exactly what was written while capturing since the previous one.

That executing a block of whole statements equals executing them one after the other in one dict is
an assumption about CPython (`sem` is a parameter), validated by the correspondence against a
plain `exec` of the de-prompted program.
-/
namespace Xdoc.C01
open Xdoc Py Parser Capture

def sourceLinesOf (rawSrc : List Str) : List Str := rawSrc.map (·.drop (chunkIndent rawSrc))

/-- the de-prompted lines of the chunk: 4 more columns (`>>> ` / `... `) removed -/
def dePrompted (rawSrc : List Str) : List Str := (sourceLinesOf rawSrc).map (·.drop 4)

/-- ★ `chunk_partition`: the `exec_lines` of the parts, concatenated in order, are exactly the
    chunk's de-prompted lines (equality of lists: each line once, none added, none moved), and the
    same for the `orig_lines` (with prompts) -/
theorem chunk_partition {rawSrc rawWant : List Str} {lineno : Nat} {facts : ChunkFacts} {ps : List PPart}
    (h : packageChunk rawSrc rawWant lineno facts = .ok ps) :
    (ps.map (·.part.execLines)).flatten = dePrompted rawSrc ∧
    (ps.map (fun p => p.part.origLines.getD [])).flatten = sourceLinesOf rawSrc := by
  obtain ⟨h1, h2⟩ := (packageChunk_tiles h).flatten
  exact ⟨h1.trans List.map_map.symm, h2⟩

/-- ★ `cuts_at_statement_starts`: every part starts at line 0 of the chunk or at a line that
    CPython reports as the start of a top-level statement AND that carries a `>>> ` prompt
    (so a statement is never cut in two, and explicit `...` continuations stay with their
    statement) -/
theorem cuts_at_statement_starts {rawSrc rawWant : List Str} {lineno : Nat} {facts : ChunkFacts} {ps : List PPart}
    (h : packageChunk rawSrc rawWant lineno facts = .ok ps) :
    ∀ p ∈ ps, ∃ c, p.part.lineOffset = lineno + c ∧
      (c = 0 ∨ ∃ starts e, facts = .parsed starts e ∧ c ∈ starts ∧
        ∀ l, (sourceLinesOf rawSrc)[c]? = some l → l.take 4 = ">>> ".toList) := by
  obtain ⟨c, ps1s, cuts, hk⟩ := packageChunk_ok h
  intro p hp
  have hmem : p.part.lineOffset ∈ (partsOfCuts c.mkMid c.mkLast cuts).map (·.part.lineOffset) :=
    List.mem_map.mpr ⟨p, hk.parts ▸ hp, rfl⟩
  rw [lineOffset_partsOfCuts] at hmem
  obtain ⟨x, hx, hxe⟩ := List.mem_map.mp hmem
  refine ⟨x, by rw [← hxe, hk.lineno], ?_⟩
  rcases hk.cutsOk.mem x hx with h0 | hin
  · exact Or.inl h0
  · obtain ⟨_, starts, e, hf, hall⟩ := locatePs1_ok hk.located
    refine Or.inr ⟨starts, e, hf, (hall x hin).1, ?_⟩
    intro l hl
    exact (hall x hin).2 l (by simpa [sourceLinesOf, hk.sourceLines] using hl)

/-- ★ `only_last_part_has_want`: the chunk's want lines are attached to the last part and to no
    other; every earlier part is compiled in `exec` mode -/
theorem only_last_part_has_want {rawSrc rawWant : List Str} {lineno : Nat} {facts : ChunkFacts} {ps : List PPart}
    (h : packageChunk rawSrc rawWant lineno facts = .ok ps) :
    ∃ init last, ps = init ++ [last] ∧
      (∀ p ∈ init, p.part.wantLines = none ∧ p.part.compileMode = .exec) ∧
      last.part.wantLines = some (rawWant.map (·.drop (chunkIndent rawSrc))) := by
  obtain ⟨c, ps1s, cuts, hk⟩ := packageChunk_ok h
  obtain ⟨r, hr⟩ := hk.cutsOk.head
  refine ⟨_, _, by rw [hk.parts, hr, partsOfCuts_eq], fun p hp => ?_,
    by rw [ChunkCtx.mkLast_wantLines, hk.wantLines]⟩
  obtain ⟨x, _, rfl⟩ := List.mem_map.mp hp
  exact ⟨rfl, rfl⟩

/-- what CPython guarantees about the statement start lines: they are lines of the chunk -/
def FactsInRange (facts : ChunkFacts) (n : Nat) : Prop :=
  ∀ starts e, facts = .parsed starts e → ∀ s ∈ starts, s ≤ n

/-- ★ `part_offsets`: `line_offset = chunk start + number of lines of the earlier parts` -/
theorem part_offsets {rawSrc rawWant : List Str} {lineno : Nat} {facts : ChunkFacts} {ps : List PPart}
    (h : packageChunk rawSrc rawWant lineno facts = .ok ps) (hf : FactsInRange facts rawSrc.length) :
    OffsetsFrom lineno 0 ps := by
  obtain ⟨c, ps1s, cuts, hk⟩ := packageChunk_ok h
  obtain ⟨r, hr⟩ := hk.cutsOk.head
  have hs := hk.cutsOk.sorted
  rw [hr] at hs
  rw [hk.parts, hr, ← hk.lineno]
  apply offsets_partsOfCuts c 0 r hs
  intro x hx
  have hlen : c.execLines.length = rawSrc.length := by simp [hk.execLines, hk.sourceLines]
  rw [hlen]
  rcases hk.cutsOk.mem x (hr ▸ hx) with h0 | hin
  · omega
  · obtain ⟨_, starts, e, hfe, hall⟩ := locatePs1_ok hk.located
    exact hf starts e hfe x (hall x hin).1

theorem first_part_at_chunk_start {rawSrc rawWant : List Str} {lineno : Nat} {facts : ChunkFacts} {ps : List PPart}
    (h : packageChunk rawSrc rawWant lineno facts = .ok ps) :
    ∃ p rest, ps = p :: rest ∧ p.part.lineOffset = lineno := by
  obtain ⟨c, ps1s, cuts, hk⟩ := packageChunk_ok h
  obtain ⟨r, hr⟩ := hk.cutsOk.head
  rw [hk.parts, hr]
  cases r <;> exact ⟨_, _, rfl, by simp [hk.lineno]⟩

/-! non-vacuity: a chunk with a directive break, a decorated statement after a want-less statement
    and a final expression with a want: three parts -/
def exSrc : List Str :=
  ["  >>> x = 1  # xdoctest: +SKIP".toList, "  >>> @deco".toList, "  ... def f():".toList,
   "  ...     return 2".toList, "  >>> f()".toList]
def exWant : List Str := ["  2".toList]
def exFacts : ChunkFacts := .parsed [0, 1, 4] true

example : (match packageChunk exSrc exWant 7 exFacts with
    | .ok ps => ps.map (fun p => (p.part.execLines.map String.ofList, p.part.lineOffset, p.part.wantLines.isSome, p.part.compileMode))
    | .error _ => []) =
    [(["x = 1  # xdoctest: +SKIP"], 7, false, .exec),
     (["@deco", "def f():", "    return 2"], 8, false, .exec),
     (["f()"], 11, true, .eval)] := by expose_lits exSrc; expose_lits exWant; decide +kernel

example : FactsInRange exFacts exSrc.length := by rintro _ _ ⟨⟩; decide

variable {Env : Type}

def program (sem : Env → Nat → RunPart → ExecResult × Env) : Env → Nat → List RunPart → Env × List Str
  | env, _, [] => (env, [])
  | env, i, p :: ps =>
    ((program sem (sem env i p).2 (i + 1) ps).1, (sem env i p).1.stdout :: (program sem (sem env i p).2 (i + 1) ps).2)

/-- `program` is a left fold of `sem` over the parts (the statement of the property) -/
theorem program_eq_foldl (sem : Env → Nat → RunPart → ExecResult × Env) (ps : List RunPart) (env : Env) (i : Nat) :
    (program sem env i ps).1 =
      (ps.foldl (fun (acc : Env × Nat) p => ((sem acc.1 acc.2 p).2, acc.2 + 1)) (env, i)).1 := by
  induction ps generalizing env i with
  | nil => rfl
  | cons p ps ih => simp [program, ih]

def replayStep (sem : Env → Nat → RunPart → ExecResult × Env) (parts : List RunPart)
    (acc : Env × List (Nat × Str)) (i : Nat) : Env × List (Nat × Str) :=
  match parts[i]? with
  | none => acc
  | some p => ((sem acc.1 i p).2, acc.2 ++ [(i, (sem acc.1 i p).1.stdout)])

def replay (sem : Env → Nat → RunPart → ExecResult × Env) (parts : List RunPart) (env0 : Env)
    (idxs : List Nat) : Env × List (Nat × Str) :=
  idxs.foldl (replayStep sem parts) (env0, [])

theorem runLoop_tracks (sat : Str → Option Bool) (sem : Env → Nat → RunPart → ExecResult × Env)
    (cfg : RunCfg) (env0 : Env) (parts : List RunPart) :
    let r := runLoop sat sem cfg { env := env0, rs := RState.init cfg.defaults } 0 parts
    (r.1.env, r.1.logged) = replay sem parts env0 r.1.executed := by
  refine runLoop_preserves (P := fun s => (s.env, s.logged) = replay sem parts env0 s.executed)
    sat sem cfg parts ?_ _ rfl
  intro s i p hp ht
  have ran : ∀ rs unm, ((ranState sem s i p rs unm).env, (ranState sem s i p rs unm).logged) =
      replay sem parts env0 (ranState sem s i p rs unm).executed := by
    intro rs unm
    unfold replay at ht ⊢
    simp only [ranState, List.foldl_append, ← ht]
    simp [replayStep, hp]
  have sp := stepPart_spec sat sem cfg s i p
  generalize stepPart sat sem cfg s i p = st at sp
  cases sp with
  | skip rs => exact ht
  | ran rs unm => exact ran rs unm
  | exit rs unm => exact ran rs unm
  | escape rs unm _ => exact ran rs unm
  | failRan rs unm k tb => exact ran rs unm
  | failEarly rs di k tb => exact ht

theorem replay_range (sem : Env → Nat → RunPart → ExecResult × Env) (parts ps : List RunPart) (i : Nat)
    (hps : parts.drop i = ps) (acc : Env × List (Nat × Str)) :
    ((List.range' i ps.length).foldl (replayStep sem parts) acc).1 = (program sem acc.1 i ps).1 ∧
    ((List.range' i ps.length).foldl (replayStep sem parts) acc).2.map (·.2) =
      acc.2.map (·.2) ++ (program sem acc.1 i ps).2 := by
  induction ps generalizing i acc with
  | nil => simp [program]
  | cons p ps ih =>
    have hp : parts[i]? = some p := by rw [← Nat.add_zero i, ← List.getElem?_drop, hps]; rfl
    have := ih (i + 1) (by rw [← List.drop_drop, hps]; rfl) (replayStep sem parts acc i)
    simp only [List.length_cons, List.range'_succ, List.foldl_cons, program]
    simpa [replayStep, hp] using this

/-- ★ `run_eq_program`: if no part is skipped and the loop is not left early (no failure, no exit
    request), the final environment and the logged stdout — part by part, hence also concatenated —
    are those of the plain program, for EVERY semantics `sem` of executing a part; every part was
    executed exactly once, in order -/
theorem run_eq_program (sat : Str → Option Bool) (sem : Env → Nat → RunPart → ExecResult × Env)
    (cfg : RunCfg) (env0 : Env) (parts : List RunPart)
    (hend : (runLoop sat sem cfg { env := env0, rs := RState.init cfg.defaults } 0 parts).2 = none)
    (hskip : (run sat sem cfg env0 parts).state.skipped = []) :
    (run sat sem cfg env0 parts).state.env = (program sem env0 0 parts).1 ∧
    (run sat sem cfg env0 parts).state.logged.map (·.2) = (program sem env0 0 parts).2 ∧
    ((run sat sem cfg env0 parts).state.logged.map (·.2)).flatten = ((program sem env0 0 parts).2).flatten ∧
    (run sat sem cfg env0 parts).state.executed = List.range parts.length := by
  have inv := runLoop_complete sat sem cfg parts _ 0 (loopInv_init env0 _) hend
  have tr := runLoop_tracks sat sem cfg env0 parts
  rw [run_eq] at hskip ⊢
  simp only at hskip tr ⊢
  -- nothing skipped, nothing left out: the executed parts are all parts, in order
  have r := inv.recorded
  rw [hskip, Nat.zero_add] at r
  have hex := r.perm.eq_of_pairwise (fun a b _ _ h h' => absurd h (Nat.lt_asymm h')) r.right List.pairwise_lt_range
  rw [hex, List.range_eq_range', replay] at tr
  obtain ⟨h1, h2⟩ := replay_range sem parts parts 0 rfl (env0, [])
  rw [← tr] at h1 h2
  simp only [List.map_nil, List.nil_append] at h2
  exact ⟨h1, h2, by rw [h2], hex⟩

/-- ★ `executed_once_in_order` (general form, with skips and a failure point): for every run,
    * the final environment and `logged_stdout` are those of re-executing exactly the recorded
      `executed` parts, in that order, in one environment;
    * `executed` is strictly increasing (each part at most once, in source order) and disjoint from
      the skipped parts, all indices are parts of the doctest;
    * if the loop ran to the end every part was skipped or executed; if a failure is recorded
      nothing after the failing part ran and everything before it was skipped or executed. -/
theorem executed_once_in_order (sat : Str → Option Bool) (sem : Env → Nat → RunPart → ExecResult × Env)
    (cfg : RunCfg) (env0 : Env) (parts : List RunPart) :
    let r := runLoop sat sem cfg { env := env0, rs := RState.init cfg.defaults } 0 parts
    (r.1.env, r.1.logged) = replay sem parts env0 r.1.executed ∧
    r.1.executed.Pairwise (· < ·) ∧ (r.1.skipped ++ r.1.executed).Nodup ∧
    (∀ j, j ∈ r.1.skipped ∨ j ∈ r.1.executed → j < parts.length) ∧
    (r.2 = none → r.1.failure = none ∧ r.1.skipped.length + r.1.executed.length = parts.length) ∧
    (∀ fl, r.1.failure = some fl → fl.partIdx ∉ r.1.skipped ∧ (∀ j ∈ r.1.executed, j ≤ fl.partIdx) ∧
        ∀ j, j < fl.partIdx → j ∈ r.1.skipped ∨ j ∈ r.1.executed) := by
  intro r
  have lr := run_result sat sem cfg env0 parts
  refine ⟨runLoop_tracks sat sem cfg env0 parts, lr.executedSorted, lr.disjoint, lr.bound, lr.complete, ?_⟩
  exact fun fl hfl => ⟨lr.failure_not_skipped hfl, lr.executed_le_failure hfl, lr.covered_below_failure hfl⟩

/-! non-vacuity of `run_eq_program`: two parts, nothing skipped, nothing fails; `sem` counts -/
def exParts : List RunPart :=
  [{ part := { execLines := ["x = 1".toList] } },
   { part := { execLines := ["print(x)".toList], wantLines := some ["1".toList] } }]
def exSem : Nat → Nat → RunPart → ExecResult × Nat := fun env i _ =>
  (.ok (if i = 1 then "1\n".toList else []) .notEvaled, env + 1)

example : (runLoop (fun _ => none) exSem {} { env := 0, rs := RState.init [] } 0 exParts).2 = none ∧
    (run (fun _ => none) exSem {} 0 exParts).state.skipped = [] ∧
    (run (fun _ => none) exSem {} 0 exParts).state.env = 2 := by unfold exSem exParts; decide_lits

/-- ★ `capture_exact` (all interleavings): for EVERY sequence of `start` / `write` / `exit` events
    on a fresh capture object, the i-th logged text is exactly the concatenation of what was
    written while capturing between the (i-1)-th and the i-th `exit`, and what was written while
    not capturing went to the original stream, in order -/
theorem capture_exact (evs : List Ev) :
    (Capture.run evs).parts = spec false [] evs ∧ (Capture.run evs).outside = uncaptured false evs := by
  have := run_eq_spec evs {} ⟨rfl, Nat.le_refl _⟩
  simpa using this

/-- ★ `capture_nothing_lost`: for every interleaving of start / write / exit, what the cycles logged together with
    what is still pending is exactly what was written while capturing -/
theorem capture_nothing_lost (evs : List Ev) :
    (Capture.run evs).parts.flatten ++ pending false [] evs = captured false evs := by
  rw [(capture_exact evs).1]
  simpa using spec_flatten false [] evs

/-- ★ `capture_exact` for a doctest run: one `with cap:` cycle per executed part, with arbitrary
    writes by others in between (the runner, another doctest run alternately, which uses its own
    capture object): the text logged for cycle i is exactly the concatenation of the writes made
    during cycle i — nothing lost, duplicated, moved to another part or taken from outside —, the
    logs concatenate to everything written inside the cycles, and `cap.text` after a cycle is that
    cycle's text -/
theorem capture_cycles (cs : List (List Str × List Str)) :
    (Capture.run (cycles cs)).parts = cs.map (fun c => c.2.flatten) ∧
    (Capture.run (cycles cs)).parts.flatten = (cs.map (fun c => c.2.flatten)).flatten ∧
    (Capture.run (cycles cs)).outside = (cs.map (fun c => c.1.flatten)).flatten := by
  obtain ⟨h1, h2⟩ := capture_exact (cycles cs)
  obtain ⟨s1, s2⟩ := spec_cycles cs
  exact ⟨by rw [h1, s1], by rw [h1, s1], by rw [h2, s2]⟩

/-- `cap.text` right after an `exit` is the text just logged (what `logged_stdout[partx]` receives) -/
theorem text_after_exit (evs : List Ev) :
    (Capture.run (evs ++ [.exit])).text = (Capture.run (evs ++ [.exit])).parts.getLast? := by
  simp [Capture.run, List.foldl_append, step]

/-! non-vacuity: an interleaving with output outside the cycles -/
example : (Capture.run (cycles [(["x".toList], ["a".toList, "b".toList]), ([], []), (["y".toList], ["c".toList])])).parts
    = ["ab".toList, [], "c".toList] := by decide +kernel

end Xdoc.C01
