import XdocModel.Proofs.C19
/-!
# C19 — the star-import filter of the dump, statement by statement

`dump_body_is_source` states what the dumped function body is in terms of `kept p`; the theorems here
state what `kept p` is in terms of the part's own exec lines, for ALL parts (no cleanliness hypothesis).
That the filter acts line by line, so that consecutive star imports all go, is what the seeded change
C19-5A breaks.
-/
namespace Xdoc.C19
open Xdoc Py Format Dump

/-- the predicate of the filter: `' import *' in line` -/
def isStar (l : Str) : Bool := contains " import *".toList l

theorem removeStar_eq_filter (ls : List Str) : removeStar ls = ls.filter (fun l => !isStar l) := rfl

/-- ★ a line is dumped iff it is one of the part's exec lines and holds no `' import *'` -/
theorem mem_kept_iff (p : Part) (l : Str) : l ∈ kept p ↔ l ∈ p.execLines ∧ isStar l = false :=
  by simp [kept, removeStar_eq_filter]

/-- ★ the dumped lines of a part are its exec lines in source order, some left out, none invented -/
theorem kept_sublist (p : Part) : List.Sublist (kept p) p.execLines := by
  unfold kept; rw [removeStar_eq_filter]; exact List.filter_sublist

/-- ★ every line that is not a star import is dumped exactly as often as the source has it -/
theorem count_kept (p : Part) (l : Str) (h : isStar l = false) :
    (kept p).count l = p.execLines.count l := by
  unfold kept; rw [removeStar_eq_filter, List.count_filter]; simp [h]

/-- ★ a star import is never dumped -/
theorem count_kept_star (p : Part) (l : Str) (h : isStar l = true) : (kept p).count l = 0 := by
  rw [List.count_eq_zero]; intro hm; have := (mem_kept_iff p l).1 hm; simp [h] at this

/-- ★ no star import among the exec lines: the dump has every one of them, unchanged -/
theorem kept_eq_of_no_star (p : Part) (h : ∀ l ∈ p.execLines, isStar l = false) :
    kept p = p.execLines := by
  unfold kept; rw [removeStar_eq_filter, List.filter_eq_self]; intro l hl; simp [h l hl]

/-- ★ the filter acts line by line … -/
theorem removeStar_append (a b : List Str) : removeStar (a ++ b) = removeStar a ++ removeStar b := by
  simp [removeStar_eq_filter]

/-- ★ … so a star import goes whatever precedes or follows it (two consecutive ones both go) -/
theorem removeStar_cons_star (l : Str) (ls : List Str) (h : isStar l = true) :
    removeStar (l :: ls) = removeStar ls := by
  simp [removeStar_eq_filter, h]

theorem removeStar_cons_keep (l : Str) (ls : List Str) (h : isStar l = false) :
    removeStar (l :: ls) = l :: removeStar ls := by
  simp [removeStar_eq_filter, h]

/-- ★ a second pass of the filter changes nothing -/
theorem removeStar_idem (ls : List Str) : removeStar (removeStar ls) = removeStar ls := by
  simp [removeStar_eq_filter]

/-- ★ the number of lines the dump leaves out of a part is the number of its star imports -/
theorem kept_length (p : Part) :
    (kept p).length + (p.execLines.filter isStar).length = p.execLines.length := by
  unfold kept; rw [removeStar_eq_filter]
  induction p.execLines with
  | nil => rfl
  | cons x xs ih => cases hx : isStar x <;> simp [hx] <;> omega

example : removeStar ["x = 1".toList, "from os import *".toList, "from sys import *  # all".toList,
    "print(x)".toList] = ["x = 1".toList, "print(x)".toList] := by decide_lits

end Xdoc.C19
