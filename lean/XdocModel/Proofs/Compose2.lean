import XdocModel.Lemmas.Compose2
import XdocModel.Lemmas.Runner
import XdocModel.Lemmas.Directive
import XdocModel.Proofs.Compose
import XdocModel.Proofs.C19
import XdocModel.Proofs.C09
import XdocModel.Proofs.C10
import XdocModel.Proofs.C15
import XdocModel.Proofs.C11
import XdocModel.Proofs.C04
/-!
# Compositions, continued — a hypothesis of one cluster's theorem discharged by a theorem of another
-/
namespace Xdoc.Compose2
open Xdoc Py Parser

/-! C19 ∘ C13/C01 : the dump of a parsed docstring. C19 takes the cleanliness of the parts (`CleanExample`)
as a hypothesis; for the parts of a parsed docstring it follows from the parse. What stays a hypothesis
(`DumpResidue`) is what the parser does not guarantee: the example has a part; after the star-import
filter every part still has a line and the last one is not empty (a part that is only
`from m import *` is dumped as ONE EMPTY line, `star_only_part_leaves_blank_line`: harmless for Python,
but outside the line-exact statement of C19); the names contain no newline. -/

theorem partsOf_eq (ps : List Piece) : C18.partsOf ps = (CoreExamples.partsOf ps).map (·.part) := by
  induction ps with
  | nil => rfl
  | cons x r ih =>
    cases x with
    | text s => simpa [C18.partsOf, CoreExamples.partsOf] using ih
    | part q => simpa [C18.partsOf, CoreExamples.partsOf] using ih

/-- what the parser does not give about the parts of a dumped example -/
structure DumpResidue (e : Dump.Example) : Prop where
  nonempty : e.parts ≠ []
  keptLast : ∀ p ∈ e.parts, ∃ x r, C19.kept p = x :: r ∧ (x :: r).getLast? ≠ some []
  names : '\n' ∉ e.modname ∧ '\n' ∉ e.callname ∧ '\n' ∉ e.node ∧ ∀ u ∈ e.undefined, '\n' ∉ u

/-- ★ C19's cleanliness hypothesis holds for the parts of a parsed docstring (C13 tiling: every
    exec / want line is a line of `prepareLines`, hence free of line breaks) -/
theorem cleanExample_of_parse (docstr : Str) (facts : List ChunkFacts) (ps : List Piece)
    (e : Dump.Example) (h : parse docstr facts = .ok ps) (hparts : e.parts = C18.partsOf ps)
    (hr : DumpResidue e) : C19.CleanExample e := by
  refine ⟨?_, hr.nonempty, hr.names⟩
  intro p hp
  obtain ⟨⟨ls, _, hexec, hpl⟩, hw⟩ := Compose.parsed_parts_plain docstr facts ps h p (hparts ▸ hp)
  obtain ⟨x, r, hk, hlast⟩ := hr.keptLast p hp
  refine ⟨⟨x, r, hk, ?_, hlast⟩, fun l hl => (hw l hl).1.no_nl⟩
  intro l hl
  have hl' : l ∈ p.execLines := by
    rw [← hk] at hl
    exact (List.mem_filter.mp hl).1
  rw [hexec] at hl'
  obtain ⟨y, hy, rfl⟩ := List.mem_map.mp hl'
  exact fun c hc => (hpl y hy).1 c (List.mem_of_mem_drop hc)

def isHashLine : Str → Bool
  | '#' :: ' ' :: _ => true
  | _ => false

/-- the code of a dumped test function: drop the `def` line, the three docstring lines and the
    optional import line, remove the 4-blank indent, drop the lines that start with `# ` -/
def codeOfDump (e : Dump.Example) (text : Str) : List Str :=
  (((splitOn '\n' text).drop (4 + (Dump.headerLines e).length)).map (·.drop 4)).filter
    (fun l => !isHashLine l)

def programOf (chunks : List Chunk) : List Str := chunks.flatMap Compose.chunkProgram

theorem filter_wantComments (p : Part) : (C19.wantComments p).filter (fun l => !isHashLine l) = [] := by
  unfold C19.wantComments
  split
  · split
    · rfl
    · rw [List.filter_eq_nil_iff]
      intro l hl
      rcases List.mem_cons.mp hl with rfl | hl
      · decide
      · obtain ⟨w, _, rfl⟩ := List.mem_map.mp hl
        simp [isHashLine]
  · rfl

/-- the lines of a dumped function are the `def` line `d`, then — indented by `pre` — the three docstring
    lines `A`, the import header `B` (0 or 1 line) and the body `C`: dropping `1 + 3 + B.length` lines and
    the indent leaves the body -/
theorem drop_header (d : Str) (A B C : List Str) (pre : Str) (hA : A.length = 3) :
    ((d :: (A ++ B ++ C).map (pre ++ ·)).drop (4 + B.length)).map (·.drop pre.length) = C := by
  have e1 : 4 + B.length = (3 + B.length) + 1 := by omega
  rw [e1, List.drop_succ_cons, List.map_append]
  rw [List.drop_left' (by simp [hA])]
  simp [List.map_map, Function.comp_def]

theorem flatMap_kept (parts : List Part) :
    parts.flatMap C19.kept = Dump.removeStar (parts.map (·.execLines)).flatten := by
  simp only [Dump.removeStar, List.filter_flatten, List.flatMap_def, List.map_map, Function.comp_def]
  rfl

/-- ★ `dump_of_parsed_is_program` (C19 `dump_body_is_source` ∘ C13/C01
    `parse_exec_lines_are_program`): parse a docstring, dump the doctest made of ALL its parts as a
    test function. Then
    * the text is line for line what C19 says (`def` line, docstring and import header, per part the
      exec lines minus star-imports and the want as `# ` comments, all indented by four blanks);
    * the exec lines that survive are exactly the de-prompted source lines of the docstring's code
      chunks, in source order, minus the lines containing `' import *'`;
    * read back from the TEXT (drop the header lines, the indent and the lines that start with `# `):
      that program minus its own `# ` lines — a source line that is itself a column-0 comment cannot
      be told from a want comment; it is a no-op for Python. -/
theorem dump_of_parsed_is_program (docstr : Str) (facts : List ChunkFacts) (ps : List Piece)
    (e : Dump.Example) (h : parse docstr facts = .ok ps) (hparts : e.parts = C18.partsOf ps)
    (hr : DumpResidue e) :
    ∃ chunks, chunksOf docstr = .ok chunks ∧
      splitOn '\n' (Dump.dumpExample e) = C19.defLine e ::
        (Dump.docstrLines e ++ Dump.headerLines e ++
          e.parts.flatMap (fun p => C19.kept p ++ C19.wantComments p)).map ("    ".toList ++ ·) ∧
      e.parts.flatMap C19.kept = Dump.removeStar (programOf chunks) ∧
      codeOfDump e (Dump.dumpExample e) =
        (Dump.removeStar (programOf chunks)).filter (fun l => !isHashLine l) := by
  obtain ⟨chunks, hc, hprog⟩ := Compose.parse_exec_lines_are_program docstr facts ps h
  have hsrc := C19.dump_body_is_source e (cleanExample_of_parse docstr facts ps e h hparts hr)
  have hk : e.parts.flatMap C19.kept = Dump.removeStar (programOf chunks) := by
    rw [flatMap_kept, hparts, partsOf_eq, programOf, ← hprog]
    simp [List.map_map, Function.comp_def]
  refine ⟨chunks, hc, hsrc, hk, ?_⟩
  unfold codeOfDump
  rw [hsrc]
  unfold C19.bodyLines
  have := drop_header (C19.defLine e) (Dump.docstrLines e) (Dump.headerLines e)
    (e.parts.flatMap fun p => C19.kept p ++ C19.wantComments p) "    ".toList rfl
  have hlen : "    ".toList.length = 4 := rfl
  rw [hlen] at this
  rw [this, ← hk]
  simp only [List.filter_flatMap, List.filter_append, filter_wantComments, List.append_nil]

theorem dump_of_parsed_is_program_exact (docstr : Str) (facts : List ChunkFacts) (ps : List Piece)
    (e : Dump.Example) (h : parse docstr facts = .ok ps) (hparts : e.parts = C18.partsOf ps)
    (hr : DumpResidue e)
    (hnc : ∀ chunks, chunksOf docstr = .ok chunks → ∀ l ∈ programOf chunks, isHashLine l = false) :
    ∃ chunks, chunksOf docstr = .ok chunks ∧
      codeOfDump e (Dump.dumpExample e) = Dump.removeStar (programOf chunks) := by
  obtain ⟨chunks, hc, _, _, h4⟩ := dump_of_parsed_is_program docstr facts ps e h hparts hr
  refine ⟨chunks, hc, ?_⟩
  rw [h4, List.filter_eq_self]
  intro l hl
  have := hnc chunks hc l (List.mem_filter.mp hl).1
  simp [this]

def dumpResidueB (e : Dump.Example) : Bool :=
  !e.parts.isEmpty &&
  e.parts.all (fun p => !(C19.kept p).isEmpty && (C19.kept p).getLast? != some []) &&
  !e.modname.contains '\n' && !e.callname.contains '\n' && !e.node.contains '\n' &&
  e.undefined.all (fun u => !u.contains '\n')

theorem dumpResidue_of_b {e : Dump.Example} (h : dumpResidueB e = true) : DumpResidue e := by
  simp only [dumpResidueB, Bool.and_eq_true, Bool.not_eq_eq_eq_not, Bool.not_true,
    List.isEmpty_eq_false_iff, List.all_eq_true, bne_iff_ne, ne_eq, List.contains_eq_mem,
    decide_eq_false_iff_not] at h
  obtain ⟨⟨⟨⟨⟨h1, h2⟩, h3⟩, h4⟩, h5⟩, h6⟩ := h
  refine ⟨h1, ?_, h3, h4, h5, h6⟩
  intro p hp
  obtain ⟨ha, hb⟩ := h2 p hp
  cases hk : C19.kept p with
  | nil => exact absurd hk ha
  | cons x r => exact ⟨x, r, rfl, hk ▸ hb⟩

def dumpOf (ps : List Piece) : Dump.Example :=
  { modname := "pkg.m".toList, callname := "f".toList, node := "m.py::f:0".toList,
    parts := C18.partsOf ps, undefined := ["K".toList] }

def dumpDoc : Str :=
  "intro\n>>> from os import *\n>>> x = [1,\n...      2]\n>>> print(x)\n[1, 2]\n\nmore".toList
def dumpFacts : List ChunkFacts := [.parsed [0, 1] false, .parsed [0] true]

/-- all hypotheses of `dump_of_parsed_is_program` hold on it, and the text read back is the program -/
example : ∃ ps, parse dumpDoc dumpFacts = .ok ps ∧ (dumpOf ps).parts = C18.partsOf ps ∧
    DumpResidue (dumpOf ps) ∧
    codeOfDump (dumpOf ps) (Dump.dumpExample (dumpOf ps)) =
      ["x = [1,".toList, "     2]".toList, "print(x)".toList] := by
  have hp : (parse dumpDoc dumpFacts).toOption.map (fun ps => dumpResidueB (dumpOf ps) &&
      decide (codeOfDump (dumpOf ps) (Dump.dumpExample (dumpOf ps)) =
        ["x = [1,".toList, "     2]".toList, "print(x)".toList])) = some true := by
    unfold dumpDoc dumpOf; decide_lits
  obtain ⟨ps, hps, hp⟩ := exists_ok_of_map hp
  rw [Bool.and_eq_true, decide_eq_true_eq] at hp
  exact ⟨ps, hps, rfl, dumpResidue_of_b hp.1, hp.2⟩

/-- the extra hypothesis of `dump_of_parsed_is_program_exact` holds on it: no source line is a
    column-0 `# ` comment -/
example : ∀ chunks, chunksOf dumpDoc = .ok chunks → ∀ l ∈ programOf chunks, isHashLine l = false := by
  have hc : (chunksOf dumpDoc).toOption.map (fun cs => (programOf cs).all (fun l => !isHashLine l)) =
      some true := by unfold dumpDoc; decide_lits
  intro chunks h l hl
  obtain ⟨cs, hcs, hc⟩ := exists_ok_of_map hc
  cases hcs.symm.trans h
  simpa using List.all_eq_true.mp hc l hl

/-- the residue `keptLast` is not implied by the parse: a part that consists of a star import only
    has no line left, yet the dump emits one (empty, indented) line for it -/
theorem star_only_part_leaves_blank_line :
    (parse ">>> from os import *\n>>> f()\n1".toList [.parsed [0, 1] true]).toOption.map
      (fun ps => ((C18.partsOf ps).map C19.kept,
        (splitOn '\n' (Dump.dumpExample { (dumpOf ps) with undefined := [] })).drop 4)) =
    some ([[], ["f()".toList]],
      ["    ".toList, "    f()".toList, "    # doctest want:".toList, "    # 1".toList]) := by
  unfold dumpOf; decide_lits

/-! C08 (google) ∘ C13. C08's google theorems carry no tiling hypothesis: google examples are collected
with `parts = none`, and C08 locates the lines of the BODY (body line `k` is on file line `lineno + k`);
the parts come into being when `docsrc` is parsed on its own. Left open is that `part.line_offset` is an
index into the body lines: C13's tiling of the per-block parse, plus the bridge between the parser's line
counting (`expandtabs().splitlines()`) and the body's (`split('\n')`), which agree for texts without tabs
whose only line break is `\n` (otherwise K-C08-c, `google_lineno_counts_splitlines_witness`). -/

section GoogleBlocks
open Core Google

theorem google_block_tiled (docstr callname : Str) (lineno i : Nat) (e : Ex) (facts : List ChunkFacts)
    (ps : List Piece) (_he : (googleAll docstr callname lineno)[i]? = some e)
    (h : parse e.docsrc facts = .ok ps) (hf : Compose.FactsOk e.docsrc facts) :
    Tiled 0 (Compose.toFPieces ps) :=
  Compose.parse_tiled e.docsrc facts ps h hf

/-- ★ the same bridge for the FREEFORM theorem: `Compose.parse_then_file_line` locates "docstring
    line number `line_offset`" (`split('\n')` counting), `Compose.parse_part_line` says what the
    labeller saw there (`splitlines` counting); for a plain docstring the two are the same line, so
    the part's first line is on the file line the report names -/
theorem parse_then_part_on_file_line (F : List Str) (a : Nat) (docstr : Str) (facts : List ChunkFacts)
    (ps : List Piece) (hlay : C08.LiteralLayout F a docstr) (hpl : PlainText docstr)
    (h : parse docstr facts = .ok ps)
    (q : PPart) (hq : Piece.part q ∈ ps) (x : Str) (xs : List Str)
    (hx : q.part.origLines = some (x :: xs)) :
    ∃ k line raw fl, (prepareLines docstr)[q.part.lineOffset]? = some line ∧ HackRel line raw ∧
      x = raw.drop k ∧ F[a + q.part.lineOffset]? = some fl ∧ line <:+: fl := by
  obtain ⟨k, line, raw, h1, h2, h3⟩ := Compose.parse_part_line docstr facts ps h q hq x xs hx
  obtain ⟨l0, hl0, hs0⟩ := prepareLines_suffix_splitOn hpl _ _ h1
  obtain ⟨fl, hfl, hs⟩ := hlay _ l0 hl0
  exact ⟨k, line, raw, fl, h1, h2, h3, hfl, hs0.isInfix.trans hs⟩

/-- ★ `parse_then_file_line_google` (C08 google ∘ C13): a docstring literal laid out on the file
    lines from `a` on, without tabs and with `\n` as its only line break; its `i`-th google example
    block; the block body parsed ON ITS OWN by the model parser. Then every part `q` of that parse
    that has a first line sits where the report says: the text of file line number
    `e.lineno + q.line_offset` contains the line the labeller saw at index `line_offset`, and that
    line is the part's first source line `orig_lines[0]` (up to the chunk indent `k` and the
    triple-quote hack `HackRel`). -/
theorem parse_then_file_line_google (F : List Str) (a : Nat) (docstr callname : Str) (i : Nat) (e : Ex)
    (facts : List ChunkFacts) (ps : List Piece)
    (hlay : C08.LiteralLayout F a docstr) (hpl : PlainText docstr)
    (he : (googleAll docstr callname (a + 1))[i]? = some e)
    (h : parse e.docsrc facts = .ok ps)
    (q : PPart) (hq : Piece.part q ∈ ps) (x : Str) (xs : List Str)
    (hx : q.part.origLines = some (x :: xs)) :
    ∃ k line raw fl, (prepareLines e.docsrc)[q.part.lineOffset]? = some line ∧ HackRel line raw ∧
      x = raw.drop k ∧ F[e.lineno + q.part.lineOffset - 1]? = some fl ∧ line <:+: fl := by
  -- the block body is a literal of its own, plain like the docstring: the freeform theorem applies to it
  obtain ⟨a', ha', hsub, h0 | hl⟩ := C08.google_layout F a docstr callname i e hlay he
  · -- an empty body has no line, so no part with a first line
    obtain ⟨_, _, _, h1, _⟩ := Compose.parse_part_line e.docsrc facts ps h q hq x xs hx
    rw [h0, show prepareLines ([] : Str) = [] by decide +kernel] at h1
    cases h1
  · rw [ha', show a' + 1 + q.part.lineOffset - 1 = a' + q.part.lineOffset by omega]
    exact parse_then_part_on_file_line F a' e.docsrc facts ps hl (hpl.of_subset hsub) h q hq x xs hx

def gFile : List Str :=
  ["def f():".toList, "    \"\"\"Example:".toList, "        >>> f()".toList, "        1\"\"\"".toList]
def gDoc : Str := "Example:\n        >>> f()\n        1".toList
def gEx : Ex := { callname := "f".toList, num := 0, lineno := 3, docsrc := ">>> f()\n1".toList,
                  blockType := some "Example".toList }

theorem gDoc_layout : C08.LiteralLayout gFile 1 gDoc :=
  C08.literalLayout_of_all (by unfold gFile gDoc; decide_lits)

theorem gDoc_plain : PlainText gDoc := by unfold gDoc; decide_lits

theorem gDoc_google : (googleAll gDoc "f".toList 2)[0]? = some gEx := by unfold gDoc gEx; decide_lits

/-- all hypotheses of `parse_then_file_line_google` together, and the located line: the prompt of the
    block is reported at file line `3 + 0`, where it is -/
example : C08.LiteralLayout gFile 1 gDoc ∧ PlainText gDoc ∧
    (googleAll gDoc "f".toList (1 + 1))[0]? = some gEx ∧
    ∃ ps q x xs, parse gEx.docsrc [.parsed [0] true] = .ok ps ∧ Piece.part q ∈ ps ∧
      q.part.origLines = some (x :: xs) ∧ gEx.lineno + q.part.lineOffset = 3 := by
  refine ⟨gDoc_layout, gDoc_plain, gDoc_google, ?_⟩
  obtain ⟨ps, q, hps, hq, h1, h2⟩ := exists_part_of_eval (e := parse gEx.docsrc [.parsed [0] true])
    (Q := fun q => q.part.origLines = some [">>> f()".toList] ∧ gEx.lineno + q.part.lineOffset = 3)
    (by unfold gEx; decide_lits)
  exact ⟨ps, q, _, _, hps, hq, h1, h2⟩

/-- non-vacuity of `google_block_tiled`: the oracle answer for the block body is in range -/
example : (googleAll gDoc "f".toList 2)[0]? = some gEx ∧
    C13.isOk (parse gEx.docsrc [.parsed [0] true]) = true ∧
    Compose.FactsOk gEx.docsrc [.parsed [0] true] :=
  ⟨gDoc_google, by unfold gEx; decide_lits, Compose.factsOk_of_eval (by unfold gEx; decide_lits)⟩

/-- non-vacuity of `parse_then_part_on_file_line`: the same file, the docstring parsed freeform: the
    part is at docstring line 1, file line index `1 + 1` -/
example : C08.LiteralLayout gFile 1 gDoc ∧ PlainText gDoc ∧
    ∃ ps q x xs, parse gDoc [.parsed [0] true] = .ok ps ∧ Piece.part q ∈ ps ∧
      q.part.origLines = some (x :: xs) ∧ gFile[1 + q.part.lineOffset]? = some "        >>> f()".toList := by
  refine ⟨gDoc_layout, gDoc_plain, ?_⟩
  obtain ⟨ps, q, hps, hq, h1, h2⟩ := exists_part_of_eval (e := parse gDoc [.parsed [0] true])
    (Q := fun q => q.part.origLines = some [">>> f()".toList] ∧
      gFile[1 + q.part.lineOffset]? = some "        >>> f()".toList)
    (by unfold gDoc gFile; decide_lits)
  exact ⟨ps, q, _, _, hps, hq, h1, h2⟩

/-- K-C08-c for google blocks: the hypothesis `PlainText` cannot be dropped. A form feed in the
    prose of the block body makes the parser count one line more than the file has: the prompt is
    body line 1 (file line `lineno + 1`), the part's `line_offset` is 2 -/
theorem google_lineno_counts_splitlines_witness :
    ((googleAll "Example:\n    a\x0cb\n    >>> f()".toList "f".toList 1)[0]?).map
      (fun e => (e.lineno, e.docsrc,
        (parse e.docsrc [.parsed [0] true]).toOption.map (fun ps => (Compose.toFPieces ps).map fun p =>
          match p with
          | .part q => (q.lineOffset, q.nLines)
          | .text s => (0, countChar '\n' s + 1)))) =
      some (2, "a\x0cb\n>>> f()".toList, some [(0, 2), (2, 1)]) ∧
    (splitOn '\n' "a\x0cb\n>>> f()".toList)[1]? = some ">>> f()".toList := by
  decide_lits

/-- `PlainText`, and what `prepareLines_suffix_splitOn` says, on a two-line docstring -/
example : Py.PlainText "  a\n  >>> f()\n".toList ∧
    Parser.prepareLines "  a\n  >>> f()\n".toList = ["a".toList, ">>> f()".toList] ∧
    splitOn '\n' "  a\n  >>> f()\n".toList = ["  a".toList, "  >>> f()".toList, []] := by decide_lits
/-- … and not every text is plain: a form feed is a line break for `splitlines` only -/
example : ¬ Py.PlainText "a\x0cb".toList := by decide_lits
example : ∀ l ∈ ["a".toList, []], NoBreak l := by
  show ∀ l ∈ ["a".toList, []], ∀ c ∈ l, isLineBreak c = false
  decide +kernel
example : ["a".toList] <+: ["a".toList, []] ∧ (["a".toList] : List Str)[0]? = some "a".toList :=
  ⟨⟨[[]], rfl⟩, rfl⟩

end GoogleBlocks

/-! C10 ∘ C09 ∘ C02. C10's module-level theorems assume that every `run(on_error='return')` call returns a
summary. For entries computed by the run-loop model C09 `return_mode_never_raises` gives that; the one
hypothesis left is C09's own: every exception raised by doctest code carries a doctest frame (`FramesAll`;
without it `ValueError('Could not clean traceback')` escapes, `frames_needed`). "No `BaseException`"
(K-C10-a/b) is not a hypothesis but a limit of the model: `ExecResult` has no constructor for it, so
`resultOfRun` never yields `.interrupt`; C10 `interrupt_breaks_tally` shows what happens outside. -/

section Tally
variable {Env : Type}

/-- C09's hypothesis for the per-doctest execution oracles of a module: an exception raised by
    executing doctest code always has a doctest frame in its traceback -/
def FramesAll (sem : Doc → Env → Nat → RunPart → ExecResult × Env) : Prop :=
  ∀ d env i p o l, (sem d env i p).1 ≠ .raised o l none

theorem resultOfRun_native (sat : Str → Option Bool) (sem : Doc → Env → Nat → RunPart → ExecResult × Env)
    (defaults : List (String × Bool)) (importOk : Bool) (env0 : Env) (hframe : FramesAll sem)
    (dp : Doc × List RunPart) :
    resultOfRun (run sat (sem dp.1) (nativeCfg defaults importOk) env0 dp.2) =
      .summary (run sat (sem dp.1) (nativeCfg defaults importOk) env0 dp.2).summary :=
  resultOfRun_of_returned
    (C09.return_mode_never_raises sat (sem dp.1) (nativeCfg defaults importOk) env0 dp.2 rfl rfl (hframe dp.1))

/-- ★ every native run of the model returns a summary (C09 plugged into C10's entries) -/
theorem entriesOf_returns (sat : Str → Option Bool) (sem : Doc → Env → Nat → RunPart → ExecResult × Env)
    (defaults : List (String × Bool)) (importOk : Bool) (env0 : Env) (docs : List (Doc × List RunPart))
    (hframe : FramesAll sem) :
    ∀ e ∈ C10.entriesOf sat sem defaults importOk env0 docs, e.returns := by
  intro e he
  obtain ⟨dp, _, rfl⟩ := List.mem_map.mp he
  exact ⟨_, resultOfRun_native sat sem defaults importOk env0 hframe dp⟩

/-- ★ `tally_adds_up_unconditional`: for every module, all oracles, all option defaults and every
    command other than `list` / `dump`, the native runner RETURNS a run summary (it never aborts),
    it ran exactly the gathered doctests in order, and
    `n_passed + n_failed + n_skipped = n_total` = the number of doctests run. -/
theorem tally_adds_up_unconditional (sat : Str → Option Bool)
    (sem : Doc → Env → Nat → RunPart → ExecResult × Env)
    (defaults : List (String × Bool)) (importOk : Bool) (env0 : Env)
    (docs zeroDocs : List (Doc × List RunPart)) (cmd : Str)
    (hframe : FramesAll sem) (h1 : cmd ≠ cmdList) (h2 : cmd ≠ cmdDump) :
    ∃ rs, doctestModule cmd (C10.entriesOf sat sem defaults importOk env0 docs)
          (C10.entriesOf sat sem defaults importOk env0 zeroDocs) = .ran rs ∧
      rs.ran = gather cmd (C10.entriesOf sat sem defaults importOk env0 docs)
          (C10.entriesOf sat sem defaults importOk env0 zeroDocs) ∧
      rs.nPassed + rs.nFailed + rs.nSkipped = rs.nTotal ∧ rs.nTotal = rs.ran.length := by
  have hdm := doctestModule_of_returns h1 h2 fun e he =>
    (mem_gather he).elim (entriesOf_returns sat sem defaults importOk env0 docs hframe e)
      (entriesOf_returns sat sem defaults importOk env0 zeroDocs hframe e)
  exact ⟨_, hdm, rfl, C10.tally_adds_up sat sem defaults importOk env0 docs zeroDocs cmd _ hdm⟩

/-- ★ the native runner never aborts, whatever the command -/
theorem doctestModule_never_aborts (sat : Str → Option Bool)
    (sem : Doc → Env → Nat → RunPart → ExecResult × Env)
    (defaults : List (String × Bool)) (importOk : Bool) (env0 : Env)
    (docs zeroDocs : List (Doc × List RunPart)) (cmd : Str) (hframe : FramesAll sem) :
    doctestModule cmd (C10.entriesOf sat sem defaults importOk env0 docs)
      (C10.entriesOf sat sem defaults importOk env0 zeroDocs) ≠ .aborted :=
  doctestModule_ne_aborted fun e he =>
    (mem_gather he).elim (entriesOf_returns sat sem defaults importOk env0 docs hframe e)
      (entriesOf_returns sat sem defaults importOk env0 zeroDocs hframe e)

/-- ★ `all_runs_enabled_once` with the run-loop model plugged in: `all` runs exactly the collected
    doctests that are not force-disabled, each once, in collection order -/
theorem all_runs_enabled_once_unconditional (sat : Str → Option Bool)
    (sem : Doc → Env → Nat → RunPart → ExecResult × Env)
    (defaults : List (String × Bool)) (importOk : Bool) (env0 : Env)
    (docs zeroDocs : List (Doc × List RunPart))
    (hz : ∀ z ∈ zeroDocs, z.1.callname ≠ cmdAll) (hframe : FramesAll sem) :
    ∃ rs, doctestModule cmdAll (C10.entriesOf sat sem defaults importOk env0 docs)
        (C10.entriesOf sat sem defaults importOk env0 zeroDocs) = .ran rs ∧
      rs.ran = (C10.entriesOf sat sem defaults importOk env0 docs).filter
        (fun e => !isDisabled false e.doc.docsrc) ∧
      rs.nTotal = rs.ran.length ∧
      rs.nPassed + rs.nFailed + rs.nSkipped = rs.nTotal ∧
      (∀ e, rs.ran.count e = if isDisabled false e.doc.docsrc then 0
        else (C10.entriesOf sat sem defaults importOk env0 docs).count e) := by
  obtain ⟨rs, h1, h2, h3, h4⟩ := C10.all_runs_enabled_once _ _
    (C10.entriesOf_callname sat sem defaults importOk env0 hz)
    (fun e he _ => entriesOf_returns sat sem defaults importOk env0 docs hframe e he)
  exact ⟨rs, h1, h2, h3,
    (C10.tally_adds_up sat sem defaults importOk env0 docs zeroDocs cmdAll rs h1).1, h4⟩

/-- ★ `exit_nonzero_iff_failed` with the run-loop model plugged in -/
theorem exit_nonzero_iff_failed_unconditional (sat : Str → Option Bool)
    (sem : Doc → Env → Nat → RunPart → ExecResult × Env)
    (defaults : List (String × Bool)) (importOk : Bool) (env0 : Env)
    (docs zeroDocs : List (Doc × List RunPart))
    (hz : ∀ z ∈ zeroDocs, z.1.callname ≠ cmdAll) (hframe : FramesAll sem) :
    exitCode (doctestModule (mainCommand none) (C10.entriesOf sat sem defaults importOk env0 docs)
        (C10.entriesOf sat sem defaults importOk env0 zeroDocs)) ≠ 0 ↔
      ∃ dp ∈ docs, isDisabled false dp.1.docsrc = false ∧
        (run sat (sem dp.1) (nativeCfg defaults importOk) env0 dp.2).summary.failed = true :=
  C10.exit_nonzero_iff_failed_entriesOf sat sem defaults importOk env0 docs zeroDocs hz
    fun dp _ => resultOfRun_native sat sem defaults importOk env0 hframe dp

/-- the frame hypothesis cannot be dropped: an oracle that raises without a doctest frame makes
    `run(on_error='return')` raise, the runner aborts (exit status 1) and no tally exists -/
theorem frames_needed :
    doctestModule cmdAll (C10.entriesOf (fun _ => some true)
      (fun (_ : Doc) (_ : Unit) _ _ => (ExecResult.raised [] "ValueError: boom\n".toList none, ()))
      [] true () [(⟨"f".toList, 0, ">>> f()".toList⟩, [{ part := { execLines := ["f()".toList] } }])]) []
      = .aborted := by
  decide_lits

def tallySem : Doc → Unit → Nat → RunPart → ExecResult × Unit := fun _ => C15.exSem
def tallyDocs : List (Doc × List RunPart) := [(C15.exDoc, C15.exParts), (C15.kDoc, C15.kParts)]

theorem tallySem_frames : FramesAll tallySem := by
  intro d env i p o l
  simp only [tallySem, C15.exSem]
  split <;> simp

example : FramesAll tallySem ∧ cmdAll ≠ cmdList ∧ cmdAll ≠ cmdDump ∧
    (∀ z ∈ ([] : List (Doc × List RunPart)), z.1.callname ≠ cmdAll) :=
  ⟨tallySem_frames, by decide, by decide, by simp⟩

example : (match doctestModule cmdAll (C10.entriesOf (fun _ => some true) tallySem [] true () tallyDocs) [] with
    | .ran rs => (rs.nTotal, rs.nPassed, rs.nFailed, rs.nSkipped)
    | _ => (0, 0, 0, 0)) = (2, 1, 1, 0) := by
  expose_lits tallyDocs C15.exDoc C15.exParts C15.kDoc C15.kParts; decide +kernel

end Tally

/-! C15 ∘ C10 ∘ C09. The hypothesis `hesc` of C15 `both_exit_nonzero_iff_failed` (no native run lets the
could-not-clean-traceback error escape) is C09's conclusion; here it is replaced by C09's hypothesis.
K-C15-a (`hsame`) stays: it is a real difference between the two front ends. -/

section FrontEnds
variable {Env : Type}

/-- ★ `both_exit_nonzero_iff_failed_of_frames`: C15 `both_exit_nonzero_iff_failed` with the escape hypothesis replaced
    by C09's frame hypothesis -/
theorem both_exit_nonzero_iff_failed_of_frames (sat : Str → Option Bool)
    (sem : Doc → Env → Nat → RunPart → ExecResult × Env)
    (defaults : List (String × Bool)) (importOk : Bool) (env0 : Env) (m zeroDocs : C15.Module)
    (hne : m ≠ [])
    (hz : ∀ z ∈ zeroDocs, z.1.callname ≠ cmdAll)
    (hframe : FramesAll sem)
    (hsame : ∀ dp ∈ m, isDisabled true dp.1.docsrc = isDisabled false dp.1.docsrc) :
    (pytestExit (C15.pytestVerdicts sat sem defaults importOk env0 m) ≠ 0 ↔
        C15.SomeFailed sat sem defaults importOk env0 m) ∧
    (exitCode (doctestModule (mainCommand none) (C10.entriesOf sat sem defaults importOk env0 m)
        (C10.entriesOf sat sem defaults importOk env0 zeroDocs)) ≠ 0 ↔
        C15.SomeFailed sat sem defaults importOk env0 m) :=
  C15.both_exit_nonzero_iff_failed sat sem defaults importOk env0 m zeroDocs hne hz
    (fun dp _ => by
      rw [C09.return_mode_never_raises sat (sem dp.1) (nativeCfg defaults importOk) env0 dp.2 rfl rfl
        (hframe dp.1)]
      simp)
    hsame

/-- ★ consequence: the two exit statuses are zero / non-zero TOGETHER -/
theorem exit_statuses_agree (sat : Str → Option Bool)
    (sem : Doc → Env → Nat → RunPart → ExecResult × Env)
    (defaults : List (String × Bool)) (importOk : Bool) (env0 : Env) (m zeroDocs : C15.Module)
    (hne : m ≠ []) (hz : ∀ z ∈ zeroDocs, z.1.callname ≠ cmdAll) (hframe : FramesAll sem)
    (hsame : ∀ dp ∈ m, isDisabled true dp.1.docsrc = isDisabled false dp.1.docsrc) :
    pytestExit (C15.pytestVerdicts sat sem defaults importOk env0 m) ≠ 0 ↔
    exitCode (doctestModule (mainCommand none) (C10.entriesOf sat sem defaults importOk env0 m)
        (C10.entriesOf sat sem defaults importOk env0 zeroDocs)) ≠ 0 := by
  obtain ⟨h1, h2⟩ := both_exit_nonzero_iff_failed_of_frames sat sem defaults importOk env0 m zeroDocs
    hne hz hframe hsame
  exact h1.trans h2.symm

/-- non-vacuity: the one-doctest module of C15's examples -/
example : [(C15.exDoc, C15.exParts)] ≠ ([] : C15.Module) ∧ FramesAll tallySem ∧
    (∀ dp ∈ [(C15.exDoc, C15.exParts)], isDisabled true dp.1.docsrc = isDisabled false dp.1.docsrc) :=
  ⟨by simp, tallySem_frames, by
    intro dp hdp
    simp only [List.mem_singleton] at hdp
    subst hdp
    expose_lits C15.exDoc; decide +kernel⟩

end FrontEnds

/-! C11 ∘ C04. C04 `cli_default_is_leading_block` is about ONE boolean option on the pristine state
`RState.init []`; C11 `runstate_fresh` says that a run starts, after any history, from
`freshRs template d`. The two clusters build the start state differently (both faithful to a different
slice of the code): C04/C02 (`Xdoc.run`) has the pristine table with the defaults applied; C11
(`runCore` of World.lean) has template, defaults, optional REQUIRES default, THEN `set_report_style`. Setting
plain options commutes with the report-style reset when every option is a key of the table
(`foldl_reportTable`); for two NEW keys the dict insertion order would differ, which is why
`OptionsOk.known` is a hypothesis (the option parser only lets known options through). -/

section Defaults

/-- the options given as defaults are plain booleans known to the template: not `REQUIRES`
    (K-C04-c), not a `REPORT_*` choice (those go through `set_report_style`), not the report key -/
structure OptionsOk (t : Template) (d : DocDef) : Prop where
  plain : ∀ kv ∈ d.defaults, kv.1 ≠ "REQUIRES" ∧ kv.1.startsWith "REPORT_" = false
  notKey : ∀ kv ∈ d.defaults, kv.1 ≠ d.reportKey
  known : ∀ kv ∈ d.defaults, (alGet kv.1 t.bools).isSome = true

def noDefaults (d : DocDef) : DocDef := { d with defaults := [] }

/-- ★ C04 for a LIST of options (no hypothesis on the table): `--options=+K1,-K2,…` on the pristine
    state is the state a leading block directive `# xdoctest: +K1, -K2, …` produces -/
theorem cli_defaults_are_leading_block (sat : Str → Option Bool) (D : List (String × Bool))
    (h : ∀ kv ∈ D, kv.1 ≠ "REQUIRES" ∧ kv.1.startsWith "REPORT_" = false) :
    (RState.init []).update sat (leadingBlock D) = some (RState.init D) := by
  rw [RState.update_leadingBlock sat D _ h]
  rfl

/-- C04's theorem is the one-option instance -/
example (sat : Str → Option Bool) (k : String) (b : Bool) (hk : k ≠ "REQUIRES")
    (hr : k.startsWith "REPORT_" = false) :
    (RState.init []).update sat [{ name := k, positive := b, inline := false }] = some (RState.init [(k, b)]) :=
  cli_defaults_are_leading_block sat [(k, b)] (fun kv hkv => by
    simp only [List.mem_singleton] at hkv; subst hkv; exact ⟨hk, hr⟩)

/-- where the two start states differ: C11's is C04's plus the report style (pristine template, no
    REQUIRES default) -/
theorem freshRs_eq_init (d : DocDef) (hreq : d.defaultsReq = none) :
    freshRs {} d = (RState.init d.defaults).setReportStyle d.reportKey := by
  simp [freshRs, hreq, RState.ofTemplate, RState.init]

/-- ★ the start state of a doctest run with default options is the state its option-less twin
    reaches by a leading block directive — for every template -/
theorem defaults_are_leading_block (sat : Str → Option Bool) (t : Template) (d : DocDef)
    (h : OptionsOk t d) :
    (freshRs t (noDefaults d)).update sat (leadingBlock d.defaults) = some (freshRs t d) := by
  rw [RState.update_leadingBlock sat d.defaults _ h.plain]
  simp only [freshRs, noDefaults, RState.ofTemplate, List.foldl_nil, RState.setReportStyle_gBools]
  rw [foldl_reportTable d.reportKey d.defaults t.bools
    (fun kv hkv => ⟨(h.plain kv hkv).2, h.notKey kv hkv, h.known kv hkv⟩)]

/-- ★ `default_options_every_run` (C11 `runstate_fresh` ∘ C04): in EVERY run of a session — after any
    history of runs of any doctests with any `on_error`, whatever directives they left switched on
    — the directive state doctest `i` starts from is the state a leading block directive
    `# xdoctest: <options>` produces from the start state of the same doctest collected without
    options. -/
theorem default_options_every_run (P : Prog) (sat : Str → Option Bool) (sem : Sem) (w : World)
    (h : History) (i : Nat) (oe : OnError) (d : DocDef) (hd : P[i]? = some d)
    (hi : i < w.docs.length) (hok : OptionsOk w.template d) :
    (freshRs w.template (noDefaults d)).update sat (leadingBlock d.defaults) =
      some (runDoc P sat sem (execHist P sat sem w h) i oe).2.startRs := by
  rw [C11.runstate_fresh P sat sem w h i oe d hd hi]
  exact defaults_are_leading_block sat w.template d hok

theorem default_options_every_run' (P P0 : Prog) (sat : Str → Option Bool) (sem sem0 : Sem)
    (w w0 : World) (h h0 : History) (i : Nat) (oe oe0 : OnError) (d : DocDef)
    (hd : P[i]? = some d) (hd0 : P0[i]? = some (noDefaults d))
    (hi : i < w.docs.length) (hi0 : i < w0.docs.length) (ht : w0.template = w.template)
    (hok : OptionsOk w.template d) :
    (runDoc P0 sat sem0 (execHist P0 sat sem0 w0 h0) i oe0).2.startRs.update sat (leadingBlock d.defaults) =
      some (runDoc P sat sem (execHist P sat sem w h) i oe).2.startRs := by
  rw [C11.runstate_fresh P0 sat sem0 w0 h0 i oe0 (noDefaults d) hd0 hi0, ht]
  exact default_options_every_run P sat sem w h i oe d hd hi hok

/-- ★ at the level of the part loop: prepend to the option-less twin a comment-only part carrying
    the block directive. Its step skips the part and leaves EXACTLY the start state of the doctest
    with default options, apart from the part being recorded as skipped (index 0) -/
theorem leading_block_step (sat : Str → Option Bool) (sem : NS → Nat → RunPart → ExecResult × NS)
    (cfg : RunCfg) (t : Template) (d : DocDef) (mg ns : NS) (p : RunPart)
    (hok : OptionsOk t d) (hp : p.directives = leadingBlock d.defaults)
    (hcode : p.part.hasAnyCode = false) :
    stepPart sat sem cfg (startState (noDefaults d) t mg ns) 0 p =
      .continue { startState d t mg ns with skipped := [0] } := by
  have hpre : preStage sat cfg (freshRs t (noDefaults d)) false p = .skip (freshRs t d) := by
    simp only [preStage, hp, defaults_are_leading_block sat t d hok, hcode]
    cases (freshRs t d).skips <;> simp
  exact C04.skip_decision sat sem cfg (startState (noDefaults d) t mg ns) 0 p _ hpre

def withLeadingBlock (d : DocDef) (p : RunPart) : DocDef := { noDefaults d with parts := p :: d.parts }

/-- ★ `default_options_run_like_leading_block`: ONE run, any template, module dict and left-over
    namespace, any `on_error`: the doctest with default options and its option-less twin with the
    leading block end the same way, with the same summary and captured outputs, record failure,
    skipped and executed parts one index later, and leave the same namespace behind. -/
theorem default_options_run_like_leading_block (sat : Str → Option Bool)
    (sem semT : NS → Nat → RunPart → ExecResult × NS)
    (hsem : ∀ env i p, semT env (i + 1) p = sem env i p)
    (t : Template) (d : DocDef) (mg ns : NS) (p : RunPart) (oe : OnError)
    (hok : OptionsOk t d) (hp : p.directives = leadingBlock d.defaults)
    (hcode : p.part.hasAnyCode = false) :
    let r := runCore sat sem d oe t mg ns
    let rT := runCore sat semT (withLeadingBlock d p) oe t mg ns
    rT.2.ending = r.2.ending ∧ rT.2.summary = r.2.summary ∧
    rT.2.logged.map (·.2) = r.2.logged.map (·.2) ∧
    rT.2.failure = r.2.failure.map shiftFailure ∧
    rT.2.skipped = 0 :: r.2.skipped.map (· + 1) ∧ rT.2.executed = r.2.executed.map (· + 1) ∧
    rT.1.ns = r.1.ns := by
  have hloop : runLoop sat semT (cfgOf (withLeadingBlock d p) oe)
      (startState (withLeadingBlock d p) t mg ns) 0 (withLeadingBlock d p).parts =
      (shiftState (runLoop sat sem (cfgOf d oe) (startState d t mg ns) 0 d.parts).1,
        (runLoop sat sem (cfgOf d oe) (startState d t mg ns) 0 d.parts).2) := by
    show runLoop sat semT _ (startState (noDefaults d) t mg ns) 0 (p :: d.parts) = _
    simp only [runLoop, leading_block_step sat semT _ t d mg ns p hok hp hcode]
    exact runLoop_shift sat sem semT hsem (cfgOf d oe) (cfgOf (withLeadingBlock d p) oe) rfl rfl
      d.parts (startState d t mg ns) 0
  intro r rT
  have hlen : (withLeadingBlock d p).parts.length = d.parts.length + 1 := rfl
  have hpm : (withLeadingBlock d p).pytestMode = d.pytestMode := rfl
  simp only [r, rT, runCore, hloop, hlen, hpm, endingOf_shift, summaryOf_shift, nsAfter_shift]
  simp only [shiftState, List.map_map, Function.comp_def, and_self]

/-- ★ `default_options_every_run_outcome` (C11 ∘ C04, outcome form): two sessions with the same
    template and module dict, started clean and run under the native discipline (C11's hypotheses),
    ANY two histories `h`, `h0`. Doctest `i` of `P` has default options, doctest `i` of `P0` is its
    twin with the leading block. After the histories, the next run of either ends the same way, with
    the same summary and the same captured outputs: default options behave like a leading block
    directive in every doctest of a run, independently of what ran before. -/
theorem default_options_every_run_outcome (P P0 : Prog) (sat : Str → Option Bool) (sem sem0 : Sem)
    (w w0 : World) (h h0 : History) (i : Nat) (d : DocDef) (p : RunPart)
    (hd : P[i]? = some d) (hd0 : P0[i]? = some (withLeadingBlock d p))
    (hsem : ∀ env k q, sem0 i env (k + 1) q = sem i env k q)
    (hclean : C11.Clean w) (hclean0 : C11.Clean w0)
    (hnat : ∀ d ∈ P, d.pytestMode = false) (hnat0 : ∀ d ∈ P0, d.pytestMode = false)
    (hframe : C11.Frames sem) (hframe0 : C11.Frames sem0)
    (hr : ∀ s ∈ h, s.2 = .ret) (hr0 : ∀ s ∈ h0, s.2 = .ret)
    (ht : w0.template = w.template) (hm : w0.moduleGlobals = w.moduleGlobals)
    (hi : i < w.docs.length) (hi0 : i < w0.docs.length)
    (hok : OptionsOk w.template d) (hp : p.directives = leadingBlock d.defaults)
    (hcode : p.part.hasAnyCode = false) :
    let o := (runDoc P sat sem (execHist P sat sem w h) i .ret).2
    let o0 := (runDoc P0 sat sem0 (execHist P0 sat sem0 w0 h0) i .ret).2
    o0.ending = o.ending ∧ o0.summary = o.summary ∧ o0.logged.map (·.2) = o.logged.map (·.2) := by
  intro o o0
  obtain ⟨a1, a2, a3, _⟩ := default_options_run_like_leading_block sat (sem i) (sem0 i) hsem
    w.template d w.moduleGlobals [] p .ret hok hp hcode
  simp only [o, o0]
  rw [C11.runDoc_after_clean_history hclean hnat hframe h hr hd hi,
    C11.runDoc_after_clean_history hclean0 hnat0 hframe0 h0 hr0 hd0 hi0, ht, hm]
  exact ⟨a1, a2, a3⟩

def optionsOkB (t : Template) (d : DocDef) : Bool :=
  d.defaults.all fun kv => kv.1 != "REQUIRES" && !kv.1.startsWith "REPORT_" && kv.1 != d.reportKey &&
    (alGet kv.1 t.bools).isSome

theorem optionsOk_of_b {t : Template} {d : DocDef} (h : optionsOkB t d = true) : OptionsOk t d := by
  simp only [optionsOkB, List.all_eq_true, Bool.and_eq_true, bne_iff_ne, ne_eq,
    Bool.not_eq_eq_eq_not, Bool.not_true] at h
  exact ⟨fun kv hkv => ⟨(h kv hkv).1.1.1, (h kv hkv).1.1.2⟩, fun kv hkv => (h kv hkv).1.2,
    fun kv hkv => (h kv hkv).2⟩

def optDoc : DocDef :=
  { parts := [{ part := { execLines := ["print(G)".toList] } }],
    defaults := [("SKIP", true), ("ELLIPSIS", false)] }
def optProg : Prog := [C11.exProg.headD optDoc, optDoc]
def optLead : RunPart :=
  { part := { execLines := ["# xdoctest: +SKIP, -ELLIPSIS".toList] },
    directives := leadingBlock optDoc.defaults }

example : "SKIP" ≠ "REPORT_UDIFF" ∧ (alGet "SKIP" Generated.defaultRuntimeStateBools).isSome = true ∧
    "SKIP".startsWith "REPORT_" = false ∧ "SKIP" ≠ "REQUIRES" := by decide_lits

theorem optDoc_ok : OptionsOk {} optDoc := optionsOk_of_b (by decide +kernel)

example : OptionsOk {} optDoc ∧ optProg[1]? = some optDoc ∧
    1 < (World.initial optProg [("G", 10)]).docs.length ∧
    optLead.directives = leadingBlock optDoc.defaults ∧ optLead.part.hasAnyCode = false :=
  ⟨optDoc_ok, rfl, by decide, rfl, by unfold optLead; decide_lits⟩

example : ∀ kv ∈ optDoc.defaults, kv.1 ≠ "REQUIRES" ∧ kv.1.startsWith "REPORT_" = false :=
  optDoc_ok.plain
example : optDoc.defaultsReq = none := rfl
/-- `default_options_every_run'`: the twin program and an unrelated world with the same template -/
example : [noDefaults optDoc, noDefaults optDoc][1]? = some (noDefaults optDoc) ∧
    (World.initial [noDefaults optDoc, noDefaults optDoc] [("H", 1)]).template =
      (World.initial optProg [("G", 10)]).template ∧
    1 < (World.initial [noDefaults optDoc, noDefaults optDoc] [("H", 1)]).docs.length :=
  -- a bare `rfl` first compares the two programs, at length, before it unfolds `World.initial`
  ⟨rfl, by unfold World.initial; rfl, by decide⟩

/-- … and the conclusion is not trivial: after doctest 0 left SKIP on and was re-run, doctest 1
    starts with SKIP on BECAUSE OF ITS DEFAULT, ELLIPSIS off, and the report style set -/
example : let rs := (runDoc optProg C11.exSat (semMini C11.exCode)
      (execHist optProg C11.exSat (semMini C11.exCode) (World.initial optProg [("G", 10)])
        [(0, .ret), (0, .raise)]) 1 .ret).2.startRs
    (rs.getBool "SKIP", rs.getBool "ELLIPSIS", rs.getBool "REPORT_UDIFF") =
      (some true, some false, some true) := by decide +kernel

/-! non-vacuity of the outcome theorems: `print(1234)` with the want `1...4`, collected with
    `--options=-ELLIPSIS`; the twin carries `# xdoctest: -ELLIPSIS` in a leading comment-only part -/
def ellDoc : DocDef :=
  { parts := [{ part := { execLines := ["print(1234)".toList], wantLines := some ["1...4".toList] } }],
    defaults := [("ELLIPSIS", false)] }
def ellLead : RunPart :=
  { part := { execLines := ["# xdoctest: -ELLIPSIS".toList] }, directives := leadingBlock ellDoc.defaults }
def ellProg : Prog := [ellDoc]
def ellProg0 : Prog := [withLeadingBlock ellDoc ellLead]
def ellSem : Sem := semMini [[[.say 1234]]]
def ellSem0 : Sem := semMini [[[.nop], [.say 1234]]]

theorem ellSem_shift : ∀ env k q, ellSem0 0 env (k + 1) q = ellSem 0 env k q := fun _ _ _ => rfl

/-- all hypotheses of `default_options_every_run_outcome` (and of
    `default_options_run_like_leading_block`, `runLoop_shift`) hold on it -/
example : ellProg[0]? = some ellDoc ∧ ellProg0[0]? = some (withLeadingBlock ellDoc ellLead) ∧
    (∀ env k q, ellSem0 0 env (k + 1) q = ellSem 0 env k q) ∧
    C11.Clean (World.initial ellProg [("G", 10)]) ∧ C11.Clean (World.initial ellProg0 [("G", 10)]) ∧
    (∀ d ∈ ellProg, d.pytestMode = false) ∧ (∀ d ∈ ellProg0, d.pytestMode = false) ∧
    C11.Frames ellSem ∧ C11.Frames ellSem0 ∧
    (∀ s ∈ ([(0, .ret), (0, .ret)] : History), s.2 = .ret) ∧
    OptionsOk (World.initial ellProg [("G", 10)]).template ellDoc ∧
    ellLead.directives = leadingBlock ellDoc.defaults ∧ ellLead.part.hasAnyCode = false :=
  ⟨rfl, rfl, ellSem_shift, by decide, by decide, by decide, by decide, C11.semMini_frames _,
    C11.semMini_frames _, by decide, optionsOk_of_b (by decide +kernel), rfl, by unfold ellLead; decide_lits⟩

/-- … and the outcome they share is the interesting one: with `-ELLIPSIS` the doctest FAILS (got/want),
    in both forms, after different histories; without the option it passes -/
example :
    (runDoc ellProg C11.exSat ellSem (execHist ellProg C11.exSat ellSem
      (World.initial ellProg [("G", 10)]) [(0, .ret), (0, .ret)]) 0 .ret).2.summary = ⟨false, true, false⟩ ∧
    (runDoc ellProg0 C11.exSat ellSem0 (execHist ellProg0 C11.exSat ellSem0
      (World.initial ellProg0 [("G", 10)]) []) 0 .ret).2.summary = ⟨false, true, false⟩ ∧
    (runDoc [noDefaults ellDoc] C11.exSat ellSem (World.initial [noDefaults ellDoc] [("G", 10)]) 0 .ret).2.summary
      = ⟨true, false, false⟩ := by
  unfold ellProg ellProg0 ellLead ellDoc; decide_lits

/-- the hypothesis `known` cannot be dropped: for an option that is not a key of the template the
    two states hold the same entries in a different order (dict insertion order) -/
theorem unknown_option_order :
    let t : Template := { bools := [("SKIP", false)] }
    let d : DocDef := { parts := [], defaults := [("NEW", true)] }
    ((freshRs t (noDefaults d)).update (fun _ => some true) (leadingBlock d.defaults)).map (·.gBools) =
      some [("SKIP", false), ("REPORT_UDIFF", true), ("NEW", true)] ∧
    (freshRs t d).gBools = [("SKIP", false), ("NEW", true), ("REPORT_UDIFF", true)] := by
  decide_lits

end Defaults

end Xdoc.Compose2
