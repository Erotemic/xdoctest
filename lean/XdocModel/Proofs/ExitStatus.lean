import XdocModel.Lemmas.Runner
/-!
# C10 — the exit status as the parent process sees it

`exitCode` models the value `main()` returns and `sys.exit` is given. The operating system keeps only
its low eight bits (`waitpid`: `WEXITSTATUS = status & 0xff`). The theorems here state that the modelled
value survives that truncation for ALL command results — it is 0 or 1 — so that every `exit … ≠ 0 ↔ …`
theorem of C10/C15 is also a statement about `$?`; and that the obvious variant "return the number
of failures" does not (`raw_count_wraps`: 256 failures read as success), which is the seeded change
C10-6A.
-/
namespace Xdoc.C10
open Xdoc

/-- what a parent process reads from `waitpid` for a child that called `sys.exit(n)` -/
def osStatus (n : Nat) : Nat := n % 256

/-- ★ the value `main` returns is 0 or 1 -/
theorem exitCode_le_one (r : CommandResult) : exitCode r ≤ 1 := by
  unfold exitCode; split
  · exact Nat.le_refl 1
  · split <;> omega

/-- ★ the status the parent sees is the value `main` returned -/
theorem osStatus_exitCode (r : CommandResult) : osStatus (exitCode r) = exitCode r := by
  have := exitCode_le_one r; unfold osStatus; omega

/-- ★ `$? ≠ 0` iff the run was aborted by an exception or counted at least one failure -/
theorem osStatus_nonzero_iff (r : CommandResult) :
    osStatus (exitCode r) ≠ 0 ↔ (r = .aborted ∨ nFailedOf r > 0) := by
  rw [osStatus_exitCode, exitCode_ne_zero_iff]

/-- the variant that hands the failure count itself to `sys.exit` -/
def rawExit : CommandResult → Nat
  | .aborted => 1
  | r => nFailedOf r

/-- ★ `rawExit` and `exitCode` agree on "non-zero" before the operating system truncates the status -/
theorem rawExit_nonzero_iff (r : CommandResult) : rawExit r ≠ 0 ↔ exitCode r ≠ 0 := by
  rw [exitCode_ne_zero_iff]
  cases r <;> simp [rawExit, nFailedOf, Nat.pos_iff_ne_zero]

theorem raw_count_wraps :
    ∃ r, nFailedOf r > 0 ∧ osStatus (rawExit r) = 0 ∧ osStatus (exitCode r) = 1 :=
  ⟨.ran { nTotal := 256, nPassed := 0, nFailed := 256, nSkipped := 0, failed := [], ran := [] }, by decide⟩

end Xdoc.C10
