import XdocModel.Lemmas.Format
import XdocModel.Lemmas.Str
import XdocModel.Lemmas.ExpandTabs
/-!
# C18 — Displayed doctest source is faithful and re-parses to the same doctest

Theorems about `Format.formatPart` / `formatParts` / `formatSrc` (the model of
`DoctestPart.format_part`, `DocTest.format_parts`, `DocTest.format_src` with `colored=False`) for
ALL part lists whose lines are "clean": no character at which `str.splitlines` breaks inside a
line, and no empty last line (`'\n'.join(lines).splitlines()` silently drops an empty last line —
the parser never produces one: its lines come from `splitlines`, and every orig line starts with a
prompt). The re-parse statement is kept in full as `ReparseSame`; proved is its core: the line
list the labeller receives is exactly the prompt-prefixed source lines followed by the want lines,
part after part.
-/
namespace Xdoc.C18
open Xdoc Py Format

/-- lines that survive `'\n'.join(...).splitlines()` unchanged -/
def CleanLines (ls : List Str) : Prop := (∀ l ∈ ls, NoBreak l) ∧ ls.getLast? ≠ some []

theorem CleanLines.append {a b : List Str} (ha : CleanLines a) (hb : CleanLines b) : CleanLines (a ++ b) := by
  refine ⟨fun l hl => (List.mem_append.mp hl).elim (ha.1 l) (hb.1 l), ?_⟩
  rw [List.getLast?_append]
  cases h : b.getLast? with
  | none => simpa using ha.2
  | some y => simpa [h] using hb.2

/-- a part as the parser builds it: original (prompt-prefixed) lines present and non-empty -/
structure CleanPart (p : Part) : Prop where
  orig : ∃ x ls, p.origLines = some (x :: ls) ∧ CleanLines (x :: ls)
  want : CleanLines (p.wantLines.getD [])

def origOf (p : Part) : List Str := p.origLines.getD []
def wantOf (p : Part) : List Str := p.wantLines.getD []

/-- the want branch of `formatPartLines` -/
theorem want_lines_fmt (p : Part) (h : CleanLines (wantOf p)) (f : Str → Str) :
    (if (wantText p).isEmpty = true then [] else (splitLines (wantText p)).map f) = (wantOf p).map f := by
  have hs : splitLines (wantText p) = wantOf p := by rw [wantText_eq]; exact splitLines_joinWith _ h.1 h.2
  split
  · next he => rw [← hs, List.isEmpty_iff.mp he]; rfl
  · rw [hs]

theorem formatPartLines_plain (p : Part) (hp : CleanPart p) (o : FmtOpts)
    (h1 : o.linenos = false) (h2 : o.partnos = false) (h3 : o.prefix_ = true) (h4 : o.want = true) :
    formatPartLines p o = (origOf p, wantOf p) := by
  obtain ⟨x, ls, ho, hc⟩ := hp.orig
  unfold formatPartLines
  simp only [h1, h2, h3, h4, ho, ↓reduceIte, Bool.false_eq_true]
  rw [splitLines_joinWith _ hc.1 hc.2, want_lines_fmt p hp.want]
  simp [origOf, ho]

/-- ★ `format_lines_faithful` (one part): the `\n`-separated lines of the formatted text are the
    original source lines then the want lines — each once, in order, nothing else -/
theorem format_part_faithful (p : Part) (hp : CleanPart p) (o : FmtOpts)
    (h1 : o.linenos = false) (h2 : o.partnos = false) (h3 : o.prefix_ = true) (h4 : o.want = true) :
    splitOn '\n' (formatPart p o) = origOf p ++ wantOf p := by
  unfold formatPart
  rw [formatPartLines_plain p hp o h1 h2 h3 h4]
  obtain ⟨x, ls, ho, hc⟩ := hp.orig
  simp only [origOf, ho, Option.getD_some]
  cases hw : wantOf p with
  | nil => simp [splitOn_joinWith_noNL x ls fun l hl => (hc.1 l hl).no_nl]
  | cons y r =>
    have hwc := hp.want
    unfold wantOf at hw
    rw [hw] at hwc
    simp only [List.isEmpty_cons, Bool.false_eq_true, ↓reduceIte, List.append_assoc, List.singleton_append]
    rw [splitOn_append_nl, splitOn_joinWith_noNL x ls fun l hl => (hc.1 l hl).no_nl, splitOn_joinWith_noNL y r fun l hl => (hwc.1 l hl).no_nl]

/-- ★ `format_lines_faithful`: without colours and numbers the displayed text is, part after part,
    `orig_lines` then `want_lines`, each line once, in order -/
theorem format_lines_faithful (parts : List Part) (hp : ∀ p ∈ parts, CleanPart p) (hne : parts ≠ [])
    (lineno : Nat) (o : SrcOpts)
    (h1 : o.linenos = false) (h2 : o.partnos = false) (h3 : o.prefix_ = true) (h4 : o.want = true) :
    splitOn '\n' (formatSrc parts lineno o) = parts.flatMap (fun p => origOf p ++ wantOf p) := by
  unfold formatSrc formatParts
  rw [splitOn_joinWith _ (by simpa using hne), List.flatMap_map]
  exact flatMap_congr fun p hq => format_part_faithful p (hp p hq) _ (by simp [partOpts, h1])
    (by simp [partOpts, h2]) (by simp [partOpts, h3]) (by simp [partOpts, h4])

/-- the start line `format_parts` uses: 1 (doctest-relative) or the doctest's line in the file -/
def startlineOf (lineno : Nat) (o : SrcOpts) : Nat := if o.linenos && o.offsetLinenos then lineno else 1

/-- the one digit count `format_parts` hands to every part -/
def digitsOf (parts : List Part) (lineno : Nat) (o : SrcOpts) : Nat :=
  nDigits (startlineOf lineno o + (parts.map Part.nLines).sum)

/-- ★ `line_numbers_correct`: with line numbers on, the i-th displayed source line of a part is
    the decimal numeral of `startline + line_offset + i` (doctest-relative: `startline = 1`;
    file-relative: `= lineno`), right-justified in ONE field width for the whole doctest, one blank,
    then the original line; the want lines are shifted by that width plus one; the numeral denotes
    that number -/
theorem line_numbers_correct (parts : List Part) (lineno : Nat) (o : SrcOpts) (p : Part) (hp : CleanPart p)
    (h1 : o.linenos = true) (h2 : o.partnos = false) (h3 : o.prefix_ = true) (h4 : o.want = true) :
    let nd := digitsOf parts lineno o
    let start := startlineOf lineno o
    (∀ i, (formatPartLines p (partOpts parts lineno o)).1[i]? =
        (origOf p)[i]?.map (fun l => rjust nd (decimal (start + p.lineOffset + i)) ++ [' '] ++ l)) ∧
    (formatPartLines p (partOpts parts lineno o)).2 = (wantOf p).map (List.replicate (nd + 1) ' ' ++ ·) ∧
    (∀ k, Nat.ofDigitChars 10 (decimal k) 0 = k) := by
  intro nd start
  obtain ⟨x, ls, ho, hc⟩ := hp.orig
  have hf : formatPartLines p (partOpts parts lineno o) =
      (addLineNumbersFrom nd (start + p.lineOffset) (origOf p),
        (wantOf p).map (List.replicate (nd + 1) ' ' ++ ·)) := by
    unfold formatPartLines partOpts
    simp only [h1, h2, h3, h4, ho, ↓reduceIte, Bool.false_eq_true]
    rw [splitLines_joinWith _ hc.1 hc.2, want_lines_fmt p hp.want]
    simp only [addLineNumbers, Option.getD_some, origOf, ho, nd, start, digitsOf, startlineOf, h1,
      Nat.zero_add]
  rw [hf]
  exact ⟨fun i => addLineNumbersFrom_getElem? .., rfl, fun k => Nat.ofDigitChars_ten_toDigits⟩

theorem number_width (nd k : Nat) (hnd : 0 < nd) (hk : k < 10 ^ nd) : (rjust nd (decimal k)).length = nd := by
  have : (decimal k).length ≤ nd := (Nat.length_toDigits_le_iff (by omega) hnd).mpr hk
  simp [rjust]; omega

/-- ★ `nDigits` is large enough: `endline ≤ 10 ^ nDigits endline` -/
theorem le_pow_nDigits (n : Nat) : n ≤ 10 ^ nDigits n :=
  Nat.le_trans (Nat.le_max_right 1 n) (nDigits_spec n).1

/-- BEYOND THE PROPERTY (alignment is not claimed by C18; kept as a remark about the model):
    all displayed numbers have the same width whenever every displayed line number is below the
    doctest's `endline = startline + Σ n_lines` (true when no text lies between the parts; see the
    witness below for what the code does otherwise) -/
theorem same_width (parts : List Part) (lineno : Nat) (o : SrcOpts) (k : Nat)
    (hk : k < startlineOf lineno o + (parts.map Part.nLines).sum) (hnd : 0 < digitsOf parts lineno o) :
    (rjust (digitsOf parts lineno o) (decimal k)).length = digitsOf parts lineno o :=
  number_width _ k hnd (Nat.lt_of_lt_of_le hk (le_pow_nDigits _))

def partsOf (pieces : List Parser.Piece) : List Part :=
  pieces.filterMap fun x => match x with | .part p => some p.part | .text _ => none

/-- ☆ the full statement, not proved: formatting the parts of a parsed doctest (prompts and wants, no
    numbers) and parsing the text again gives the same executable lines, wants and modes. Proved of it:
    what the labeller of the second parse receives (`reparse_same_partial`, `prepareLines_formatSrc`) and
    that it labels those lines as intended whenever they are in the grammar of `C13Labels`
    (`reparse_labels`). Open: that the lines of a parsed doctest always are in that grammar, and the
    grouping and packaging of the second parse. -/
def ReparseSame : Prop :=
  ∀ (docstr : Str) (facts : List Parser.ChunkFacts) (pieces : List Parser.Piece),
    Parser.parse docstr facts = .ok pieces →
    ∃ facts' pieces', Parser.parse (formatSrc (partsOf pieces) 0 { linenos := false }) facts' = .ok pieces' ∧
      ((partsOf pieces').map (·.execLines)).flatten = ((partsOf pieces).map (·.execLines)).flatten ∧
      ((partsOf pieces').filterMap Part.want) = ((partsOf pieces).filterMap Part.want) ∧
      ((partsOf pieces').filter (·.wantLines.isSome)).map (·.compileMode) =
        ((partsOf pieces).filter (·.wantLines.isSome)).map (·.compileMode)

/-- ◐ for clean parts the formatted text IS the `\n`-join of the prompt-prefixed source lines and the
    want lines, part after part, and (no tabs in them) `expandtabs` leaves it alone — so what the second
    parse sees is determined by `orig_lines` and `want_lines` alone, each line once, in order. The labels
    these lines get: `Proofs/C18Labels.lean`. -/
theorem reparse_same_partial (parts : List Part) (hp : ∀ p ∈ parts, CleanPart p) (hne : parts ≠ [])
    (hnotab : ∀ p ∈ parts, ∀ l ∈ origOf p ++ wantOf p, '\t' ∉ l) :
    formatSrc parts 0 { linenos := false } = joinWith ['\n'] (parts.flatMap (fun p => origOf p ++ wantOf p)) ∧
    Parser.expandTabs (formatSrc parts 0 { linenos := false }) = formatSrc parts 0 { linenos := false } := by
  have hlines := format_lines_faithful parts hp hne 0 { linenos := false } rfl rfl rfl rfl
  have h1 : formatSrc parts 0 { linenos := false } =
      joinWith ['\n'] (parts.flatMap (fun p => origOf p ++ wantOf p)) := by
    rw [← hlines, joinWith_splitOn]
  refine ⟨h1, ?_⟩
  apply Parser.expandTabsGo_of_noTab
  rw [h1]
  intro hm
  rcases mem_joinWith hm with h | ⟨l, hl, hc⟩
  · cases List.mem_singleton.mp h
  · obtain ⟨p, hpm, hlp⟩ := List.mem_flatMap.mp hl
    exact hnotab p hpm l hlp hc

def exParts : List Part :=
  [{ execLines := ["x = 1".toList], origLines := some [">>> x = 1".toList], lineOffset := 0 },
   { execLines := ["x".toList], wantLines := some ["1".toList], origLines := some [">>> x".toList],
     lineOffset := 1, compileMode := .eval }]

example : formatSrc exParts 8 { linenos := true, offsetLinenos := true } =
    " 8 >>> x = 1\n 9 >>> x\n   1".toList := by unfold exParts; decide_lits

example : formatSrc exParts 7 { linenos := false } = ">>> x = 1\n>>> x\n1".toList := by unfold exParts; decide_lits

theorem exParts_clean : ∀ p ∈ exParts, CleanPart p := by
  intro p hp
  simp only [exParts, List.mem_cons, List.not_mem_nil, or_false] at hp
  rcases hp with rfl | rfl <;>
    exact ⟨⟨_, _, rfl, by unfold CleanLines NoBreak; decide_lits⟩, by unfold CleanLines NoBreak; decide_lits⟩

/-- two one-line parts with 102 lines of prose between them -/
def gapParts : List Part :=
  [{ execLines := ["a = 1".toList], origLines := some [">>> a = 1".toList], lineOffset := 0 },
   { execLines := ["a".toList], wantLines := some ["1".toList], origLines := some [">>> a".toList],
     lineOffset := 103, compileMode := .eval }]

/-- BEYOND THE PROPERTY (C18 speaks about the displayed NUMBERS, not about the width of their column; the
    check's verdict does not depend on alignment): prose between two chunks is not counted in `n_lines`, so the digit
    count is too small for the later line numbers and the display is misaligned: `'1 '` vs `'104 '` -/
theorem width_not_uniform_witness :
    formatSrc gapParts 1 { linenos := true } = "1 >>> a = 1\n104 >>> a\n  1".toList := by
  unfold gapParts; decide_lits

end Xdoc.C18
