import XdocModel.Proofs.C03
/-!
# C03 — corollaries of `expected_exception_iff`

What the flag IGNORE_EXCEPTION_DETAIL can and cannot do, for ALL exception lines and wants.
-/
namespace Xdoc.C03
open Xdoc Py

/-- ★ a want that is not a traceback block never makes an exception "expected", whatever the flags -/
theorem non_traceback_want_never_expected (f : Flags) (line want : Str) (h : extractExcWant want = none) :
    checkException f line want ≠ some true := by
  intro hc
  obtain ⟨ew, he, _⟩ := (expected_exception_iff f line want).mp hc
  rw [h] at he; cases he

/-- ★ with IGNORE_EXCEPTION_DETAIL off the final part of the traceback must match in full -/
theorem detail_off_exact (f : Flags) (line want : Str) (h : f.ignDetail = false) :
    checkException f line want = some true ↔
      ∃ ew, extractExcWant want = some ew ∧ checkOutput f line ew = true := by
  rw [expected_exception_iff]
  constructor
  · rintro ⟨ew, he, h1 | ⟨h2, _⟩⟩
    · exact ⟨ew, he, h1⟩
    · rw [h] at h2; cases h2
  · rintro ⟨ew, he, h1⟩; exact ⟨ew, he, Or.inl h1⟩

/-- ★ a full match is accepted under every setting of the flag -/
theorem full_match_expected (f : Flags) (line want ew : Str) (he : extractExcWant want = some ew)
    (hm : checkOutput f line ew = true) : checkException f line want = some true :=
  (expected_exception_iff f line want).mpr ⟨ew, he, Or.inl hm⟩

/-- ★ even with the flag on, a want whose bare exception name is empty is accepted only through a full match -/
theorem empty_name_needs_full_match (f : Flags) (line want ew : Str) (he : extractExcWant want = some ew)
    (hn : stripExceptionDetails ew = []) (hc : checkException f line want = some true) :
    checkOutput f line ew = true := by
  obtain ⟨ew', he', h⟩ := (expected_exception_iff f line want).mp hc
  rw [he] at he'; cases he'
  exact h.elim id fun h3 => absurd hn h3.2.1

end Xdoc.C03
