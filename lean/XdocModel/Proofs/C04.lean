import XdocModel.Lemmas.Directive
import XdocModel.Example
import XdocModel.Parser
import XdocModel.Lemmas.Lexer
/-!
# C04 — Directive scoping: block persists, inline is local, skipped code never runs

About `RuntimeState.update` / the skip rule of the run loop, for ALL states, ALL directive lists
and ALL requirement oracles `sat`.
-/
namespace Xdoc.C04
open Xdoc Py

/-- the directive is not one of the `REPORT_*` family (those rewrite the persistent report
    style even when written inline: known finding K-C04-b) -/
def NotReport (d : Directive) : Prop := d.name.startsWith "REPORT_" = false

/-- ★ an update made of inline directives (outside the
    REPORT family) leaves the persistent state exactly as it was -/
theorem inline_leaves_persistent_untouched (sat : Str → Option Bool) (s s' : RState)
    (ds : List Directive) (hin : ∀ d ∈ ds, d.inline = true ∧ NotReport d)
    (h : s.update sat ds = some s') : s'.gBools = s.gBools ∧ s'.gReq = s.gReq := by
  -- every step keeps the persistent part; the start state of the fold has that of `s`
  suffices ∀ s0 : RState, ds.foldlM (RState.applyDirective sat) s0 = some s' →
      s'.gBools = s0.gBools ∧ s'.gReq = s0.gReq from
    this { s with iBools := [], iReq := none } h
  clear h
  induction ds with
  | nil => intro s0 h; cases h; exact ⟨rfl, rfl⟩
  | cons d ds ih =>
    intro s0 h
    rw [List.foldlM_cons] at h
    obtain ⟨s1, hd, h⟩ := Option.bind_eq_some_iff.mp h
    have h1 := RState.applyDirective_inline_persist sat (hin d List.mem_cons_self).1
      (hin d List.mem_cons_self).2 hd
    have h2 := ih (fun d' hd' => hin d' (List.mem_cons_of_mem _ hd')) s1 h
    exact ⟨h2.1.trans h1.1, h2.2.trans h1.2⟩

/-- ★ what an inline directive did is forgotten by the next update —
    the statement after it sees exactly the state it would have seen without it -/
theorem inline_does_not_leak (sat : Str → Option Bool) (s s1 : RState) (ds ds' : List Directive)
    (hin : ∀ d ∈ ds, d.inline = true ∧ NotReport d) (h : s.update sat ds = some s1) :
    s1.update sat ds' = s.update sat ds' :=
  have ⟨h1, h2⟩ := inline_leaves_persistent_untouched sat s s1 ds hin h
  RState.update_congr h1 h2 sat ds'

/-- ★ a block directive on a boolean flag is visible in the updated state (unless the same update
    also carries an inline assignment of that flag, which wins for that statement only) -/
theorem block_assign_visible (s : RState) (k : String) (v : Bool)
    (hover : alGet k s.iBools = none) :
    (RState.applyEffect false s (.assign k v)).getBool k = some v := by
  simp [RState.applyEffect, RState.getBool, alGet_alSet, hover]

/-- ★ `+REQUIRES(x)` followed by `-REQUIRES(x)` (x unmet) gives back the pending set -/
theorem requires_inverse (req : List Str) (x : Str) (hx : x ∉ req) :
    setErase x (setInsert x req) = req := by
  have hf : req.filter (· != x) = req :=
    List.filter_eq_self.mpr fun a ha => by simpa using fun h : a = x => hx (h ▸ ha)
  simp [setInsert, setErase, hx, hf]

/-- ★ a satisfied requirement is a no-op -/
theorem satisfied_requirement_noop (sat : Str → Option Bool) (pos inl : Bool) (x : Str)
    (h : sat x = some true) :
    ({ name := "REQUIRES", positive := pos, args := [x], inline := inl } : Directive).effects sat
      = some [.noop] := by
  simp [Directive.effects, h]

/-- ★ the execution rule: a part is handed to the interpreter iff, in the state updated with
    its directives, SKIP is off and no unmet requirement is pending — and it holds some code -/
theorem executed_iff (sat : Str → Option Bool) (cfg : RunCfg) (rs0 : RState) (di : Bool) (p : RunPart) :
    (∃ rs, preStage sat cfg rs0 di p = .exec rs ∨ preStage sat cfg rs0 di p = .importFail rs) ↔
      ∃ rs, rs0.update sat p.directives = some rs ∧
        (rs.getBool "SKIP").getD false = false ∧ rs.requires = [] ∧ p.part.hasAnyCode = true := by
  unfold preStage
  cases rs0.update sat p.directives with
  | none => simp
  | some rs =>
    simp only [Option.some.injEq, ← and_assoc, ← RState.skips_eq_false_iff]
    cases hs : rs.skips <;> cases hc : p.part.hasAnyCode <;> simp [hs]
    split <;> simp

/-- ★ a skipped part changes neither the namespace, nor the logged
    output, nor the unmatched output, is not executed, and its want is never checked (the only
    change is the entry in `_skipped_parts`) -/
theorem skipped_has_no_effect {Env : Type} (cfg : RunCfg) (s : RunState Env) (i : Nat) (env' : Env) :
    applyAct cfg s i env' .skip =
      .continue { s with skipped := s.skipped ++ [i] } := rfl

theorem skip_decision {Env : Type} (sat : Str → Option Bool) (sem : Env → Nat → RunPart → ExecResult × Env)
    (cfg : RunCfg) (s : RunState Env) (i : Nat) (p : RunPart) (rs : RState)
    (h : preStage sat cfg s.rs s.didImport p = .skip rs) :
    stepPart sat sem cfg s i p = .continue { s with rs := rs, skipped := s.skipped ++ [i] } := by
  simp [stepPart, h, applyAct]

/-- ★ a boolean default given on the command line is the state a
    leading block directive produces (REQUIRES through `--options` is excluded: known finding
    K-C04-c, the real code stores `True` in place of the set) -/
theorem cli_default_is_leading_block (sat : Str → Option Bool) (k : String) (b : Bool)
    (hk : k ≠ "REQUIRES") (hr : k.startsWith "REPORT_" = false) :
    (RState.init []).update sat [{ name := k, positive := b, inline := false }]
      = some (RState.init [(k, b)]) := by
  rw [show [({ name := k, positive := b, inline := false } : Directive)] = leadingBlock [(k, b)] from rfl,
    RState.update_leadingBlock sat [(k, b)] _
      (fun kv hkv => by rw [List.mem_singleton.mp hkv]; exact ⟨hk, hr⟩)]
  rfl

example : NotReport { name := "SKIP" } := by unfold NotReport; decide +kernel
example : ((RState.init []).update (fun _ => some false)
    [{ name := "REQUIRES", args := ["--x".toList], inline := true }]).map (·.skips) = some true := by
  decide_lits
example : (((RState.init []).update (fun _ => some false)
    [{ name := "REQUIRES", args := ["--x".toList], inline := true }]).bind
      (·.update (fun _ => some false) [])).map (·.skips) = some false := by decide_lits

end Xdoc.C04

/-!
# C04, clause "directive-looking text inside string literals is not a directive"

Directives are looked for in the COMMENT tokens only (`Directive.extract` → `extract_comments` →
the tokenizer). At the level of the mini-lexer, for ALL strings: a closed string literal is skipped
whatever its body, so a `#` inside it never starts the comment of the line.

Three hypotheses that cannot be dropped (counterexamples are given as `example`s at the end):
* the body of a single-quoted literal is empty only if the text after it does not start with the
  same quote (`''` followed by `'` opens a triple-quoted string);
* the quote is closed: an unterminated single quote is a lone error token and the text after it is
  scanned as code (so `x = '# a` does carry the comment `# a`, in the real tokenizer as well);
* in a source of several lines the line is reached with no triple-quoted string open (`hopen`):
  inside one, what looks like a literal is part of the string body.
-/
namespace Xdoc.C04
open Xdoc Py Lexer Parser

/-- ★ the fuel of the scanner is not observable -/
theorem scan_fuel_irrelevant (fuel : Nat) (p : Int) (semi : Bool) (s : Str) (h : s.length ≤ fuel) :
    scanCode fuel p semi s = scanCode s.length p semi s :=
  scanCode_fuel_irrelevant fuel p semi s h

theorem scan_plain (p : Int) (pre : Str) (hpre : Plain pre) :
    scan p pre = { paren := depthAfter p pre, semicolon := pre.contains ';' } := by
  rw [scan_eq_scanS, scanS_plain _ _ _ hpre]; simp

/-- `q :: s` starts with a string literal closed on the line, `post` is the text after it:
    single-quoted (`s` = body, quote, post — not the start of a triple quote) or triple-quoted -/
def Lit (q : Char) (s post : Str) : Prop :=
  (closeSingle q s = some post ∧ ∀ t, s ≠ q :: q :: t) ∨
  (∃ s', s = q :: q :: s' ∧ closeTriple q s' = some post)

theorem Lit.single {q : Char} (hq : IsQuote q) {body post : Str} (hb : SingleBody q body)
    (hnt : body = [] → post.head? ≠ some q) : Lit q (body ++ q :: post) post := by
  refine Or.inl ⟨closeSingle_body hq.ne_backslash hb post, fun t h => ?_⟩
  cases body with
  | nil =>
    simp only [List.nil_append, List.cons.injEq, true_and] at h
    exact hnt rfl (by simp [h])
  | cons c b =>
    simp only [List.cons_append, List.cons.injEq] at h
    exact hb.head_ne hq.ne_backslash (by simp [h.1])

theorem Lit.triple {q : Char} (hq : IsQuote q) {body : Str} (hb : TripleBody q body) (post : Str) :
    Lit q (q :: q :: (body ++ q :: q :: q :: post)) post :=
  Or.inr ⟨_, rfl, closeTriple_body hq.ne_backslash hb post⟩

theorem scan_skips_literal (p : Int) (pre s post : Str) (q : Char) (hpre : Plain pre)
    (hq : IsQuote q) (hl : Lit q s post) :
    scan p (pre ++ q :: s) = withSemi (scan p pre).semicolon (scan (scan p pre).paren post) := by
  rw [scan_plain_append _ _ _ hpre]
  simp only [scan_eq_scanS]
  rcases hl with ⟨h1, h2⟩ | ⟨s', rfl, h⟩
  · rw [scanS_single _ _ hq h1 h2]
  · rw [scanS_triple _ _ hq h]

/-- ★ one line, single-quoted: the line
    `pre 'body' post` is scanned as `pre` followed by `post` — the comment of the line is the
    comment found in `post` at the depth reached after `pre`; a `#` inside `body` never starts it -/
theorem string_literal_is_not_comment (p : Int) (pre body post : Str) (q : Char)
    (hpre : Plain pre) (hq : IsQuote q) (hb : SingleBody q body)
    (hnt : body = [] → post.head? ≠ some q) :
    (scan p (pre ++ q :: (body ++ q :: post))).comment = (scan (scan p pre).paren post).comment ∧
    (scan p (pre ++ q :: (body ++ q :: post))).paren = (scan (scan p pre).paren post).paren ∧
    (scan p (pre ++ q :: (body ++ q :: post))).openStr = (scan (scan p pre).paren post).openStr ∧
    (scan p (pre ++ q :: (body ++ q :: post))).semicolon =
      ((scan p pre).semicolon || (scan (scan p pre).paren post).semicolon) := by
  rw [scan_skips_literal p pre _ post q hpre hq (Lit.single hq hb hnt)]
  exact ⟨rfl, rfl, rfl, rfl⟩

/-- ★ the same for a triple-quoted literal closed on the line -/
theorem triple_literal_is_not_comment (p : Int) (pre body post : Str) (q : Char)
    (hpre : Plain pre) (hq : IsQuote q) (hb : TripleBody q body) :
    (scan p (pre ++ q :: q :: q :: (body ++ q :: q :: q :: post))).comment
      = (scan (scan p pre).paren post).comment ∧
    (scan p (pre ++ q :: q :: q :: (body ++ q :: q :: q :: post))).paren
      = (scan (scan p pre).paren post).paren ∧
    (scan p (pre ++ q :: q :: q :: (body ++ q :: q :: q :: post))).openStr
      = (scan (scan p pre).paren post).openStr ∧
    (scan p (pre ++ q :: q :: q :: (body ++ q :: q :: q :: post))).semicolon =
      ((scan p pre).semicolon || (scan (scan p pre).paren post).semicolon) := by
  rw [scan_skips_literal p pre _ post q hpre hq (Lit.triple hq hb post)]
  exact ⟨rfl, rfl, rfl, rfl⟩

/-- ★ the comment of a line is a suffix of it and starts with `#` -/
theorem comment_is_suffix (p : Int) (s c : Str) (h : (scan p s).comment = some c) :
    ∃ a, s = a ++ c ∧ c.head? = some '#' := by
  obtain ⟨⟨a, ha⟩, h2⟩ := scanCode_comment _ _ _ _ _ h
  exact ⟨a, ha.symm, h2⟩

theorem comment_lies_after_literal (p : Int) (pre body post c : Str) (q : Char)
    (hpre : Plain pre) (hq : IsQuote q) (hb : SingleBody q body)
    (hnt : body = [] → post.head? ≠ some q)
    (h : (scan p (pre ++ q :: (body ++ q :: post))).comment = some c) :
    ∃ a, post = a ++ c ∧ c.head? = some '#' := by
  rw [(string_literal_is_not_comment p pre body post q hpre hq hb hnt).1] at h
  exact comment_is_suffix _ _ _ h

/-- ★ a source line whose only `#` are inside a string literal has no comment, hence no
    directive: `Directive.extract` of that line is empty whatever the body of the literal is,
    `# xdoctest: +SKIP` included -/
theorem no_directive_in_string_literal (pre body post : Str) (q : Char)
    (hpre : Plain pre) (hq : IsQuote q) (hb : SingleBody q body) (hpost : Plain post) :
    extractDirectives [pre ++ q :: (body ++ q :: post)] = .ok [] := by
  have hc : extractComments [pre ++ q :: (body ++ q :: post)] = some [] := by
    rw [extractComments_single_line, (string_literal_is_not_comment 0 pre body post q hpre hq hb
      fun _ => hpost.head?_ne_quote hq).1, scan_eq_scanS, (scanS_plain_comment _ _ _ hpost).1]
    rfl
  unfold extractDirectives
  simp only [hc]
  rfl

theorem semicolon_in_string_literal (pre body post : Str) (q : Char)
    (hpre : Plain pre) (hq : IsQuote q) (hb : SingleBody q body)
    (hnt : body = [] → post.head? ≠ some q) :
    hasSemicolon [pre ++ q :: (body ++ q :: post)]
      = ((scan 0 pre).semicolon || (scan (scan 0 pre).paren post).semicolon) := by
  unfold hasSemicolon
  rw [(lex_single _).2.2, (string_literal_is_not_comment 0 pre body post q hpre hq hb hnt).2.2.2]

/-- brackets and quotes inside a string literal do not count for `is_balanced_statement` -/
theorem brackets_in_string_literal (pre body post : Str) (q : Char)
    (hpre : Plain pre) (hq : IsQuote q) (hb : SingleBody q body)
    (hnt : body = [] → post.head? ≠ some q) :
    isBalanced [pre ++ q :: (body ++ q :: post)]
      = ((scan (scan 0 pre).paren post).openStr.isNone && (scan (scan 0 pre).paren post).paren == 0) := by
  obtain ⟨_, h2, h3, _⟩ := string_literal_is_not_comment 0 pre body post q hpre hq hb hnt
  rw [isBalanced_single_line, h2, h3]

/-- ★ whole sources (lines before, lines after, any bracket depth): on a line that is reached with
    no triple-quoted string open, the body of a closed string literal preceded by plain code is not
    observable by the tokenizer loop: same comments, same end, same `;` flag -/
theorem lex_ignores_string_body (before after : List Str) (pre s s' post : Str) (q : Char)
    (hopen : (lex before).1.openStr = none) (hpre : Plain pre) (hq : IsQuote q)
    (hl : Lit q s post) (hl' : Lit q s' post) :
    lex (before ++ (pre ++ q :: s) :: after) = lex (before ++ (pre ++ q :: s') :: after) := by
  have he : ∀ X, (pre ++ q :: X).isEmpty = false := fun X => by simp
  simp only [lex, List.filter_append, List.filter_cons, he, Bool.not_false, ↓reduceIte] at hopen ⊢
  rcases lexGo_append {} (before.filter (!·.isEmpty)) with h | h
  · rw [h, h]
  · rw [h, h]
    -- the line itself, from any bracket depth and indentation stack: neither its column and
    -- first character nor its scan depend on the body
    obtain ⟨col', pre', hpl, hmi⟩ := measureIndent_plain_split 0 pre q hpre hq.not_indent
    have hfirst : ∀ X, ∃ c r, (measureIndent 0 (pre ++ q :: X)).2 = c :: r ∧ c ≠ '#' :=
      fun X => measureIndent_plain_prefix 0 pre q X hpre hq.not_indent hq.ne_hash
    obtain ⟨c, r, h1, hc⟩ := hfirst s
    obtain ⟨c', r', h1', hc'⟩ := hfirst s'
    rw [lexGo_code _ hopen _ _ h1 hc, lexGo_code _ hopen _ _ h1' hc', hmi, hmi,
      scan_skips_literal _ pre s post q hpre hq hl, scan_skips_literal _ pre s' post q hpre hq hl']

theorem isBalanced_ignores_string_body (before after : List Str) (pre s s' post : Str)
    (q : Char) (hopen : (lex before).1.openStr = none) (hpre : Plain pre) (hq : IsQuote q)
    (hl : Lit q s post) (hl' : Lit q s' post) :
    isBalanced (before ++ (pre ++ q :: s) :: after)
      = isBalanced (before ++ (pre ++ q :: s') :: after) := by
  unfold isBalanced
  rw [lex_ignores_string_body before after pre s s' post q hopen hpre hq hl hl']

theorem hasSemicolon_ignores_string_body (before after : List Str) (pre s s' post : Str)
    (q : Char) (hopen : (lex before).1.openStr = none) (hpre : Plain pre) (hq : IsQuote q)
    (hl : Lit q s post) (hl' : Lit q s' post) :
    hasSemicolon (before ++ (pre ++ q :: s) :: after)
      = hasSemicolon (before ++ (pre ++ q :: s') :: after) := by
  unfold hasSemicolon
  rw [lex_ignores_string_body before after pre s s' post q hopen hpre hq hl hl']

/-- ★ `Directive.extract` of a group of lines does not depend on the body of a closed string
    literal in it (same side conditions as `lex_ignores_string_body`): directive-looking text inside a string literal is
    not a directive, and it does not hide or alter the real directives around it -/
theorem directives_ignore_literal_anywhere (before after : List Str) (pre s s' post : Str)
    (q : Char) (hopen : (lex before).1.openStr = none) (hpre : Plain pre) (hq : IsQuote q)
    (hl : Lit q s post) (hl' : Lit q s' post) :
    extractDirectives (before ++ (pre ++ q :: s) :: after)
      = extractDirectives (before ++ (pre ++ q :: s') :: after) := by
  have hc := lex_ignores_string_body before after pre s s' post q hopen hpre hq hl hl'
  have t1 := textLines_not_all_comment before after (pre ++ q :: s) (by simp)
    (strip_not_hash pre q s hpre hq.not_space hq.ne_hash)
  have t2 := textLines_not_all_comment before after (pre ++ q :: s') (by simp)
    (strip_not_hash pre q s' hpre hq.not_space hq.ne_hash)
  unfold extractDirectives
  simp only [extractComments_eq, hc, t1, t2]

theorem directives_ignore_string_body_anywhere (before after : List Str)
    (pre body body' post : Str) (q : Char) (hopen : (lex before).1.openStr = none)
    (hpre : Plain pre) (hq : IsQuote q) (hb : SingleBody q body) (hb' : SingleBody q body')
    (hnt : body = [] → post.head? ≠ some q) (hnt' : body' = [] → post.head? ≠ some q) :
    extractDirectives (before ++ (pre ++ q :: (body ++ q :: post)) :: after)
      = extractDirectives (before ++ (pre ++ q :: (body' ++ q :: post)) :: after) :=
  directives_ignore_literal_anywhere before after pre _ _ post q hopen hpre hq
    (Lit.single hq hb hnt) (Lit.single hq hb' hnt')

/-- ★ on one line: the directives of the source line `pre 'body' post` do not depend on `body`: whatever
    is written inside the string literal, the directives are those of the real comment in `post`
    (here `post` is arbitrary: it may hold a real `# xdoctest: …` comment) -/
theorem directives_ignore_string_body (pre body body' post : Str) (q : Char)
    (hpre : Plain pre) (hq : IsQuote q) (hb : SingleBody q body) (hb' : SingleBody q body')
    (hnt : body = [] → post.head? ≠ some q) (hnt' : body' = [] → post.head? ≠ some q) :
    extractDirectives [pre ++ q :: (body ++ q :: post)]
      = extractDirectives [pre ++ q :: (body' ++ q :: post)] :=
  directives_ignore_string_body_anywhere [] [] pre body body' post q rfl hpre hq hb hb' hnt hnt'

theorem directives_ignore_triple_body_anywhere (before after : List Str)
    (pre body body' post : Str) (q : Char) (hopen : (lex before).1.openStr = none)
    (hpre : Plain pre) (hq : IsQuote q) (hb : TripleBody q body) (hb' : TripleBody q body') :
    extractDirectives (before ++ (pre ++ q :: q :: q :: (body ++ q :: q :: q :: post)) :: after)
      = extractDirectives (before ++ (pre ++ q :: q :: q :: (body' ++ q :: q :: q :: post)) :: after) :=
  directives_ignore_literal_anywhere before after pre _ _ post q hopen hpre hq
    (Lit.triple hq hb post) (Lit.triple hq hb' post)

/-- ★ a triple-quoted string over several lines: the lines inside it are not looked at, so a
    `#` there is not a comment; the comments of the statement are those after the closing quotes.
    `closeTriple q m = none` holds in particular for every line without the quote character
    (`closeTriple_none_of_not_mem`). Empty lines may occur anywhere in `mids`. -/
theorem multiline_string_is_not_comment (pre b0 last post : Str) (mids : List Str) (q : Char)
    (hpre : Plain pre) (hq : IsQuote q) (h0 : closeTriple q b0 = none)
    (hm : ∀ m ∈ mids, closeTriple q m = none) (hl : closeTriple q last = some post) :
    extractComments ((pre ++ q :: q :: q :: b0) :: (mids ++ [last]))
      = some (scan (scan 0 pre).paren post).comment.toList := by
  have hlast : last ≠ [] := by intro h; subst h; simp [closeTriple] at hl
  have hf : ((pre ++ q :: q :: q :: b0) :: (mids ++ [last])).filter (!·.isEmpty)
      = (pre ++ q :: q :: q :: b0) :: (mids.filter (!·.isEmpty) ++ [last]) := by
    simp [hlast]
  obtain ⟨c, r, hmi, hc⟩ := measureIndent_plain_prefix 0 pre q (q :: q :: b0) hpre hq.not_indent
    hq.ne_hash
  obtain ⟨ind, hfirst⟩ := lexGo_first (pre ++ q :: q :: q :: b0) (mids.filter (!·.isEmpty) ++ [last])
    c r hmi hc
  rw [extractComments_eq, lex, hf, hfirst, scan_plain_append _ _ _ hpre, scan_eq_scanS _ (q :: _),
    scanS_triple_open _ _ hq h0,
    lexGo_open_skip _ q rfl _ _ (fun m hm' => hm m (List.mem_filter.mp hm').1),
    lexGo_open_close _ q rfl _ _ _ hl, if_neg (lexGo_nil_comments _).2, (lexGo_nil_comments _).1]
  cases h : (scan (scan 0 pre).paren post).comment <;> simp [applyScan, withSemi, h]

-- the hypotheses of the one-line theorems on `x = '# xdoctest: +SKIP'`
example : Plain "x = ".toList := by decide_lits
example : IsQuote '\'' := by decide
example : SingleBody '\'' "# xdoctest: +SKIP".toList := by
  rw [String.toList_ofList]
  repeat (first | exact .nil | refine .char _ _ (by decide) (by decide) ?_)
example : SingleBody '"' "a \\\" # b".toList := by
  rw [String.toList_ofList]
  repeat (first | exact .nil | refine .esc _ _ ?_ | refine .char _ _ (by decide) (by decide) ?_)
example : TripleBody '"' "a \" # \"\" b".toList := by
  rw [String.toList_ofList]
  repeat (first | exact .nil | refine .char _ _ (by decide) (by decide) ?_
                | refine .two _ _ (by decide) ?_ | refine .one _ _ (by decide) ?_)
-- `no_directive_in_string_literal` on that line, and the contrast: the same text as a real comment
example : (extractDirectives ["x = '# xdoctest: +SKIP'".toList]).toOption = some [] := by
  decide_lits
example : (extractDirectives ["x = 1  # xdoctest: +SKIP".toList]).toOption
    = some [{ name := "SKIP", inline := true }] := by decide_lits
example : extractComments ["x = \"# not a comment\"  # real".toList] = some ["# real".toList] := by
  decide_lits
-- a directive-looking string body next to a real directive comment: only the comment counts
example : (extractDirectives ["x = '# xdoctest: +SKIP'  # xdoctest: +IGNORE_WANT".toList]).toOption
    = some [{ name := "IGNORE_WANT", inline := true }] := by decide_lits
example : Plain "  ".toList ∧ ¬ Plain "  # xdoctest: +IGNORE_WANT".toList := by decide_lits
-- the literal on a continuation line inside brackets, a real directive after it
example : (lex ["f(".toList]).1.openStr = none := by decide_lits
example : (extractDirectives ["f(".toList, "  '# xdoctest: +SKIP',".toList,
    ")  # xdoctest: +IGNORE_WANT".toList]).toOption = some [{ name := "IGNORE_WANT", inline := true }] := by
  decide_lits
-- `lex_ignores_string_body` needs `hopen`: inside an open triple-quoted string the body of a "literal" is observable
-- (line = `"` body `"` ` # b` with body = `'''# a` or `# a`)
example : (lex ["x = '''".toList]).1.openStr = some '\'' := by decide_lits
example : extractComments ["x = '''".toList, "\"'''# a\" # b".toList] = some ["# a\" # b".toList] ∧
    extractComments ["x = '''".toList, "\"# a\" # b".toList] = some [] := by decide_lits
-- `multiline_string_is_not_comment` on three lines
example : extractComments ["x = '''# a".toList, "# xdoctest: +SKIP".toList, "c''' # d".toList]
    = some ["# d".toList] := by decide_lits
example : closeTriple '\'' "# a".toList = none ∧ closeTriple '\'' "# xdoctest: +SKIP".toList = none ∧
    closeTriple '\'' "c''' # d".toList = some " # d".toList := by decide_lits
-- counterexample to `string_literal_is_not_comment` without `hnt`: empty body followed by the same quote = a triple quote
example : (scan 0 ("" ++ "'" ++ "" ++ "'" ++ "'# x").toList).comment = none ∧
    (scan 0 "'# x".toList).comment = some "# x".toList := by decide_lits
-- … and for an unterminated quote: the `#` after it does start a comment
-- (the real `extract_comments(["x = '# a"])` yields `# a` as well)
example : extractComments ["x = '# a".toList] = some ["# a".toList] := by decide_lits

end Xdoc.C04
