import XdocModel.Parser
import XdocModel.Lemmas.Parser
/-!
# C13 — Parsing partitions the docstring: each line is text, source or want, once

Property theorems about the model `Parser.parse`, one per phase and then for the whole parser. The
spec predicates read: `LineRel line (lab, out)` — the labelled line is the input line, verbatim, except
that a SOURCE line may have the continuation prompt `... ` inserted (the triple-quote hack of
`_complete_source`); `Tiles ps o L` — the pieces, in order, tile the lines `L` from line number `o` on,
the parts of a chunk tiling its source lines (`SrcTiles`: `orig_lines[i] = line[k:]`, `exec_lines[i] =
line[k:][4:]` for the chunk's indent `k`), the want lines belonging to the chunk's LAST part.
-/
namespace Xdoc.C13
open Xdoc Py Parser

/-- ★ `label_preserves_lines`: the only way a labelled line can differ from the input line is the triple-quote hack on
    a source line -/
theorem label_preserves_lines {ls : List Str} {out : List LLine} (h : labelLines ls = .ok out) :
    Forall2 LineRel ls out :=
  labelLines_lines h

theorem label_verbatim {ls : List Str} {out : List LLine}
    (hl : ∀ l ∈ ls, containsTriple l = false) (h : labelLines ls = .ok out) :
    out.map (·.2) = ls :=
  labelLines_verbatim hl h

/-- grouping is a partition of the labelled lines, in order, and keeps the kind of every line:
    text lines end up in text chunks, `dsrc`/`dcnt` lines in the source of a code chunk, want lines
    in its want -/
theorem grouping_is_partition {labeled : List LLine} {cs : List Chunk} (h : groupLines labeled = .ok cs) :
    cs.flatMap chunkLines = labeled.map (·.2) ∧ cs.flatMap chunkCls = labeled.map clsLine :=
  ⟨groupLines_flat h, groupLines_cls h⟩

/-- ★ `chunk_partition`: the parts of a chunk tile its source lines part by part, with their offsets, and the want
    goes to the last one -/
theorem chunk_partition {src want : List Str} {lineno : Nat} {facts : ChunkFacts} {parts : List PPart}
    (h : packageChunk src want lineno facts = .ok parts) :
    SrcTiles (chunkIndentP src) want parts lineno src :=
  packageChunk_tiles h

theorem package_groups_tiles {cs : List Chunk} {fs : List ChunkFacts} {o : Nat} {ps : List Piece}
    (h : packageGroups cs fs o = .ok ps) : Tiles ps o (cs.flatMap chunkLines) :=
  packageGroups_tiles h

/-- ★ Parsing partitions the docstring. For EVERY docstring and EVERY answer of the CPython oracle
    on which the model parser succeeds: with `L = prepareLines docstr` the lines the labeller sees
    (tab-expanded, common indent removed), there is a labelling `labeled` of `L`, line by line
    (`LineRel`: verbatim, up to the triple-quote hack on source lines), such that the parts, in order,
    tile those lines starting at line 0 (`Tiles`), and every line keeps its kind through grouping. -/
theorem parse_partition (docstr : Str) (facts : List ChunkFacts) (ps : List Piece)
    (h : parse docstr facts = .ok ps) :
    ∃ (labeled : List LLine) (chunks : List Chunk),
      labelLines (prepareLines docstr) = .ok labeled ∧
      Forall2 LineRel (prepareLines docstr) labeled ∧
      chunks.flatMap chunkCls = labeled.map clsLine ∧
      Tiles ps 0 (chunks.flatMap chunkLines) ∧
      chunks.flatMap chunkLines = labeled.map (·.2) := by
  obtain ⟨chunks, hc, hp⟩ := parse_ok_iff.mp h
  obtain ⟨labeled, hl, hg⟩ := chunksOf_ok_iff.mp hc
  exact ⟨labeled, chunks, hl, labelLines_lines hl, groupLines_cls hg, packageGroups_tiles hp, groupLines_flat hg⟩

/-- ★ the same without the hack: if no line contains a triple quote, the parts tile exactly the
    lines of the (tab-expanded, de-indented) docstring -/
theorem parse_partition_verbatim (docstr : Str) (facts : List ChunkFacts) (ps : List Piece)
    (hq : ∀ l ∈ prepareLines docstr, containsTriple l = false)
    (h : parse docstr facts = .ok ps) :
    Tiles ps 0 (prepareLines docstr) := by
  obtain ⟨labeled, chunks, hl, _, _, ht, hf⟩ := parse_partition docstr facts ps h
  rw [hf, labelLines_verbatim hq hl] at ht
  exact ht

/-- ★ text is neither executed nor compared, source is source, want is want: a line is in a text
    piece / in the source of a code chunk / in its want exactly according to its label -/
theorem text_is_not_source (docstr : Str) (labeled : List LLine) (chunks : List Chunk)
    (hl : labelLines (prepareLines docstr) = .ok labeled) (hc : chunksOf docstr = .ok chunks) :
    chunks.flatMap chunkCls = labeled.map clsLine := by
  obtain ⟨labeled', hl', hg⟩ := chunksOf_ok_iff.mp hc
  cases hl.symm.trans hl'
  exact groupLines_cls hg

/-- ★ a want is never the first line and never follows text: it directly follows source (or an
    earlier line of the same want) -/
theorem want_is_after_source {ls : List Str} {out : List LLine} (h : labelLines ls = .ok out) :
    WantFollows out :=
  labelLines_wantFollows h

theorem parse_line_count (docstr : Str) (facts : List ChunkFacts) (ps : List Piece)
    (h : parse docstr facts = .ok ps) :
    ∃ chunks : List Chunk, Tiles ps 0 (chunks.flatMap chunkLines) ∧
      (chunks.flatMap chunkLines).length = (prepareLines docstr).length := by
  obtain ⟨labeled, chunks, _, hr, _, ht, hf⟩ := parse_partition docstr facts ps h
  exact ⟨chunks, ht, by rw [hf, List.length_map, hr.length_eq]⟩

/-! `labels_are_intended` (☆): for docstrings rendered from a grammar of labelled blocks the labeller
returns the intended labels. The statement as written here is refuted in `Proofs/C13Labels.lean`
(`labels_are_intended_statement_false`); with `Block.ContOrdered` added it is proved there. -/

inductive Block where
  | prose (lines : List Str)                 -- non-blank lines that do not start with a prompt
  | blank (n : Nat)
  | example (indent : Nat) (stmts : List (List Str)) (want : List Str)
      -- each statement = its prompt-prefixed lines (`>>> ` first, `>>> `/`... ` after)

def Block.render : Block → List Str
  | .prose ls => ls
  | .blank n => List.replicate n []
  | .example k stmts want =>
    (stmts.flatMap id).map (List.replicate k ' ' ++ ·) ++ want.map (List.replicate k ' ' ++ ·)

def Block.intended : Block → List Label
  | .prose ls => ls.map fun _ => .text
  | .blank n => List.replicate n .text
  | .example _ stmts want =>
    (stmts.flatMap id).map (fun l => if hasPrefix l [ps2] then Label.dcnt else Label.dsrc) ++
      want.map fun _ => .want

def Block.WellFormed : Block → Prop
  | .prose ls => ∀ l ∈ ls, (strip l).isEmpty = false ∧ hasPrefix (strip l) [ps1] = false
  | .blank _ => True
  | .example _ stmts want =>
    stmts ≠ [] ∧
    (∀ s ∈ stmts, ∃ first rest, s = first :: rest ∧ startsWith ">>> ".toList first = true ∧
        (∀ l ∈ rest, startsWith ">>> ".toList l = true ∨ startsWith "... ".toList l = true) ∧
        Lexer.isBalanced (s.map (·.drop 4)) = true ∧
        ∀ n, 0 < n → n < s.length → Lexer.isBalanced ((s.take n).map (·.drop 4)) = false) ∧
    (∀ w ∈ want, (strip w).isEmpty = false ∧ hasPrefix (strip w) [ps1, ps2] = false ∧
        indentOf w = 0 ∧ (w.head?.map isSpace).getD false = false)

/-- ☆ the statement as first written (false, see above): whatever follows an example must be a blank
    block, the first block is arbitrary -/
def labels_are_intended_statement : Prop :=
  ∀ bs : List Block, (∀ b ∈ bs, b.WellFormed) →
    (∀ pre k stmts want b rest, bs = pre ++ Block.example k stmts want :: b :: rest →
        ∃ n, b = .blank (n + 1)) →
    ∃ out, labelLines (bs.flatMap Block.render) = .ok out ∧ out.map (·.1) = bs.flatMap Block.intended

def exDoc : Str :=
  "  intro text\n  >>> x = [1,\n  ...      2]\n  >>> print(x)\n  [1, 2]\n\n  more text".toList

/-- the CPython facts of its two code chunks (the `>>>`/`...` statement is a chunk of its own):
    one statement starting at line 0, not an expression; one expression statement at line 0 -/
def exFacts : List ChunkFacts := [.parsed [0] false, .parsed [0] true]

def isOk {ε α : Type} : Except ε α → Bool
  | .ok _ => true
  | .error _ => false

example : isOk (parse exDoc exFacts) = true := by unfold exDoc; decide_lits
example : (match parse exDoc exFacts with | .ok ps => ps.length | .error _ => 0) = 4 := by expose_lits exDoc; decide +kernel
example : (chunksOf exDoc).toOption.map (·.length) = some 4 := by unfold exDoc; decide_lits
example : prepareLines exDoc =
    ["intro text".toList, ">>> x = [1,".toList, "...      2]".toList, ">>> print(x)".toList,
     "[1, 2]".toList, [], "more text".toList] := by unfold exDoc; decide_lits
example : (labelLines (prepareLines exDoc)).toOption.map (·.map (·.1)) =
    some [.text, .dsrc, .dcnt, .dsrc, .want, .text, .text] := by unfold exDoc; decide_lits
example : ∀ l ∈ prepareLines exDoc, containsTriple l = false := by unfold exDoc; decide_lits
/-- the triple-quote hack really fires in the model: the middle line gets a `... ` prompt -/
example : (labelLines [">>> x = '''".toList, "abc".toList, ">>> '''".toList]).toOption.map (·.map (·.2)) =
    some [">>> x = '''".toList, "... abc".toList, ">>> '''".toList] := by decide_lits
/-- a malformed docstring: the hypothesis of `parse_partition` can fail -/
example : isOk (parse ">>> x = (\n\ntext".toList []) = false := by decide_lits

/-! Witnesses of the known findings: the model reproduces them; each is replayed on the code by every
check run. -/

/-- K-C13-a: a prompt directly after a source line at another indentation is not source -/
theorem witness_K_C13_a :
    (labelLines (prepareLines "    >>> x = 1\n>>> y = 2\n".toList)).toOption.map (·.map (·.1)) = some [.dsrc, .text] ∧
    (labelLines (prepareLines ">>> x = 1\n    >>> y = 2\n".toList)).toOption.map (·.map (·.1)) = some [.dsrc, .want] := by
  decide_lits

/-- K-C13-b: mixed continuation styles followed by a want: the statement is cut in two and rejected -/
theorem witness_K_C13_b :
    (chunksOf ">>> t = \"\"\"first\n    indented body\nlast\"\"\"\nv\n".toList).toOption =
      some [.code [">>> t = \"\"\"first".toList] [],
            .code ["    indented body".toList, "... last\"\"\"".toList] ["v".toList]] ∧
    isOk (parse ">>> t = \"\"\"first\n    indented body\nlast\"\"\"\nv\n".toList []) = false := by
  decide_lits

/-- K-C13-c: the common indent is sliced off lines it was not measured on -/
theorem witness_K_C13_c :
    prepareLines "    a\n    b\x0cXYZW\n".toList = ["a".toList, "b".toList] := by
  decide_lits

end Xdoc.C13
