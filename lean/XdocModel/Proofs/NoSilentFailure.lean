import XdocModel.Proofs.C09
import XdocModel.Proofs.C10
/-!
# C09 — no silent failure, read from the summary

For ALL part lists, execution oracles and configurations: a summary that says `passed` or `skipped` has no
recorded failure behind it, a recorded failure is never reported as passed or skipped, and a doctest
without parts cannot fail. (`C02.passed_iff`, `C02.skipped_iff`, and a recorded failure means that not every part
was skipped: `C02.failed_not_all_skipped`.)
-/
namespace Xdoc.C09
open Xdoc Py

variable {Env : Type}

/-- ★ a doctest reported as passed has no recorded failure -/
theorem passed_no_failure (sat : Str → Option Bool)
    (sem : Env → Nat → RunPart → ExecResult × Env) (cfg : RunCfg) (env0 : Env) (parts : List RunPart)
    (h : (run sat sem cfg env0 parts).summary.passed = true) :
    (run sat sem cfg env0 parts).state.failure = none :=
  ((C02.passed_iff sat sem cfg env0 parts).mp h).1

/-- ★ a doctest reported as skipped has no recorded failure -/
theorem skipped_no_failure (sat : Str → Option Bool)
    (sem : Env → Nat → RunPart → ExecResult × Env) (cfg : RunCfg) (env0 : Env) (parts : List RunPart)
    (h : (run sat sem cfg env0 parts).summary.skipped = true) :
    (run sat sem cfg env0 parts).state.failure = none := by
  cases hf : (run sat sem cfg env0 parts).state.failure with
  | none => rfl
  | some fl => exact absurd ((C02.skipped_iff sat sem cfg env0 parts).mp h) (C02.failed_not_all_skipped sat sem cfg env0 parts fl hf)

/-- ★ a recorded failure is reported as failed and as nothing else -/
theorem failure_reported_only_as_failed (sat : Str → Option Bool)
    (sem : Env → Nat → RunPart → ExecResult × Env) (cfg : RunCfg) (env0 : Env) (parts : List RunPart)
    (fl : Failure) (h : (run sat sem cfg env0 parts).state.failure = some fl) :
    (run sat sem cfg env0 parts).summary.failed = true ∧
    (run sat sem cfg env0 parts).summary.passed = false ∧
    (run sat sem cfg env0 parts).summary.skipped = false := by
  have := C10.failure_recorded_is_failed sat sem cfg env0 parts (by rw [h]; rfl)
  exact ⟨this.1, this.2.2, this.2.1⟩

/-- ★ a doctest without parts cannot record a failure -/
theorem no_parts_no_failure (sat : Str → Option Bool)
    (sem : Env → Nat → RunPart → ExecResult × Env) (cfg : RunCfg) (env0 : Env) :
    (run sat sem cfg env0 []).state.failure = none := by
  cases hs : (run sat sem cfg env0 []).state.failure with
  | none => rfl
  | some fl => exact absurd (failure_names_part sat sem cfg env0 [] fl hs) (by simp)

end Xdoc.C09
