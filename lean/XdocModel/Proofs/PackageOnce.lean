import XdocModel.Proofs.C07
import XdocModel.Proofs.PackageNodup
/-!
# Collection over a package names every callable once (C07 ∘ package walk; used by C10)

`core.package_calldefs` walks `package_modpaths(pkgpath, with_pkg=True)` and, for every module path, asks the static
visitor for its calldefs. `Proofs/C07.lean: identifiers_nodup` says a callname occurs once per module,
`Proofs/PackageNodup.lean: packageModpaths_nodup` says a module path occurs once per walk; together: the pair
(module path, callname) occurs once in the whole collection — for every directory tree, every module contents
(`mods` is an arbitrary assignment of module ASTs to paths) and every locator. With the numbering of the examples of
one docstring (`example_nums_nodup`) this is the "each exactly once" of C07 and the premise of C10's "every collected
doctest runs once".
-/
namespace Xdoc.C07
open Xdoc Py Static

theorem nodup_flatMap_pairs {α β : Type} (ps : List α) (f : α → List β) (hp : ps.Nodup)
    (hf : ∀ p ∈ ps, (f p).Nodup) : (ps.flatMap fun p => (f p).map (Prod.mk p)).Nodup := by
  refine List.pairwise_flatMap.mpr ⟨fun p h => ?_, hp.imp fun hne x hx y hy e => ?_⟩
  · exact List.pairwise_map.mpr ((hf p h).imp fun hne e => hne (Prod.mk.inj e).2)
  · obtain ⟨_, _, rfl⟩ := List.mem_map.mp hx
    obtain ⟨_, _, rfl⟩ := List.mem_map.mp hy
    exact hne (Prod.mk.inj e).1

/-- ★ `package_callnames_nodup`: every (module, callname) of a package is collected once, for every directory tree without repeated names in a listing,
    every assignment of module contents to paths, every walk option and locator -/
theorem package_callnames_nodup (cfg : WalkCfg) (check : Bool) (root : Root)
    (h : match root with | .file => True | .dir l => NamesDistinct l)
    (loc : List Str → Locator) (mods : List Str → Module) :
    ((packageModpaths cfg check root).flatMap fun p =>
      (keys (visitModule (loc p) (mods p))).map (Prod.mk p)).Nodup :=
  nodup_flatMap_pairs _ _ (packageModpaths_nodup cfg check root h) (fun p _ => identifiers_nodup (loc p) (mods p))

end Xdoc.C07
