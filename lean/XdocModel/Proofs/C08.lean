import XdocModel.Lemmas.CoreCollect
import XdocModel.Proofs.C07
import XdocModel.Example
/-!
# C08 — reported line numbers point at the real lines of the source file

Pure index arithmetic over the models of `_find_docstr_startpos_workaround`, the google block
offsets, the freeform `curr_offset`, the re-basing in `doctest_from_parts`, and
`failed_line_offset` / `failed_lineno`. Conventions: `F` = the lines of the file (0-based list),
`a` = 0-based index of the line on which the docstring literal starts, so `doclineno = a + 1`;
file line NUMBER `n` (1-based, what xdoctest reports) is `F[n - 1]`.

Outside the model (CPython facts, checked by the harness on every generated file): `end_lineno` of
the docstring node; that line `i` of the docstring value is written on file line `a + i`
(`LiteralLayout`: true for literals without line-continuation or newline escapes); traceback
line numbers. The parser's tiling of the docstring (`Tiled`) is property C13.
-/
namespace Xdoc.C08
open Xdoc Py Static Google Core

/-- ★ `docstart_correct`: the docstring start is found. A literal that occupies the file lines `a..b` (0-based), whose
    value has `b - a` newline characters, whose first line — after `strip()` — starts with the
    triple quote `trip`, optionally preceded by one of `r R u U`, and whose last line — after
    removing a trailing comment and `strip()` — ends with the same triple quote, is located at
    line `a`: `doclineno = a + 1`, `doclineno_end = b + 1`. -/
theorem docstart_correct (docstr : Str) (src : List Str) (a b : Nat) (la lb trip : Str)
    (hab : a ≤ b) (hla : src[a]? = some la) (hlb : src[b]? = some lb)
    (hn : countChar '\n' docstr = b - a) (ht : trip ∈ trips)
    (hend : endOk trip lb = true) (hstart : startOk trip la = true) :
    docLines src ⟨docstr, b + 1, a + 1⟩ = .ok ((a : Int) + 1, b + 1) := by
  refine docLines_of_findDocStart ?_ rfl rfl
  unfold findDocStart
  simp only [Nat.add_sub_cancel, hlb]
  rw [tripStep_at docstr src a b la lb _ hab hla hn, tripStep_at docstr src a b la lb _ hab hla hn]
  simp only [trips, List.mem_cons, List.not_mem_nil, or_false] at ht
  rcases ht with rfl | rfl
  · simp [hend, hstart]
  · by_cases h1 : (endOk tripS lb && startOk tripS la) = true
    · simp [h1]
    · simp [h1, hend, hstart]

/-- ★ a string literal whose last line does not end in a triple quote is taken to be on one line -/
theorem docstart_oneline (docstr : Str) (src : List Str) (b : Nat) (lb : Str) (hlb : src[b]? = some lb)
    (h1 : endOk tripS lb = false) (h2 : endOk tripD lb = false) :
    docLines src ⟨docstr, b + 1, b + 1⟩ = .ok ((b : Int) + 1, b + 1) := by
  refine docLines_of_findDocStart ?_ rfl rfl
  unfold findDocStart
  simp [hlb, tripStep, h1, h2]

/-- non-vacuity: `def f():` / `    R"""Summary.` / `` / `    Example:` / `    """  # end` -/
example : (docLines ["def f():".toList, "    R\"\"\"Summary.".toList, [], "    Example:".toList,
                    "    \"\"\"  # end".toList]
    ⟨"Summary.\n\n    Example:\n    ".toList, 5, 2⟩).toOption = some (2, 5) := by decide +kernel
example : endOk "\"\"\"".toList "    \"\"\"  # end".toList = true := by decide_lits
example : startOk "\"\"\"".toList "    R\"\"\"Summary.".toList = true := by decide_lits
example : startOk "'''".toList "  u'''x".toList = true := by decide_lits
/-- the pathological end line of the upstream doctest: both quote styles pass the end test -/
example : endOk "'''".toList "''' # \"\"\" # ''' # \"\"\"".toList = true ∧
          endOk "\"\"\"".toList "''' # \"\"\" # ''' # \"\"\"".toList = true := by decide_lits

/-- ★ `google_offset_is_tag_index`: the i-th google example comes from the i-th example block, its tag line is at the
    block offset, and `lineno = doclineno + offset + 1` -/
theorem google_offset_is_tag_index (docstr callname : Str) (lineno i : Nat) (e : Ex)
    (he : (googleAll docstr callname lineno)[i]? = some e) :
    ∃ b pre l0 val post, (exampleBlocks docstr)[i]? = some b ∧
      prepLines docstr = pre ++ (l0 :: val) ++ post ∧ b.offset = pre.length ∧
      isTagLine l0 = true ∧ e.lineno = lineno + pre.length + 1 ∧ e.num = i ∧
      e.docsrc = joinWith ['\n'] (dedentLines val) := by
  have h := (C07.one_example_per_block_in_order docstr callname lineno).2 i
  rw [he] at h
  obtain ⟨b, hb, rfl⟩ := Option.map_eq_some_iff.mp h.symm
  obtain ⟨hm1, hm2⟩ := List.mem_filter.mp (List.mem_of_getElem? hb)
  obtain ⟨pre, l0, val, post, h1, h2, h3, _, _, h6⟩ := C07.example_block_starts_at_tag docstr b hm1 hm2
  exact ⟨b, pre, l0, val, post, hb, h1, h2, h3, by rw [h2], rfl, h6⟩

/-- CPython fact (trusted; checked by the harness on every generated file): line `i` of the
    docstring value is written on file line `a + i` (0-based) -/
def LiteralLayout (F : List Str) (a : Nat) (docstr : Str) : Prop :=
  ∀ i l, (splitOn '\n' docstr)[i]? = some l → ∃ fl, F[a + i]? = some fl ∧ l <:+: fl

/-- `LiteralLayout` from a check line by line, for concrete files -/
theorem literalLayout_of_all {F : List Str} {a : Nat} {docstr : Str}
    (h : ∀ p ∈ (splitOn '\n' docstr).zipIdx, (F[a + p.2]?).any (fun fl => decide (p.1 <:+: fl)) = true) :
    LiteralLayout F a docstr := by
  intro i l hl
  have := h (l, i) (List.mem_zipIdx_iff_getElem?.mpr (by simpa using hl))
  cases hF : F[a + i]? with
  | none => simp [hF] at this
  | some fl => exact ⟨fl, rfl, by simpa [hF] using this⟩

theorem getElem?_append_cons_append {α : Type} (pre val post : List α) (l0 : α) (k : Nat) (v : α) (h : val[k]? = some v) :
    (pre ++ (l0 :: val) ++ post)[pre.length + 1 + k]? = some v := by
  have hk : k < val.length := (List.getElem?_eq_some_iff.mp h).1
  rw [List.append_assoc, List.getElem?_append_right (by omega), show pre.length + 1 + k - pre.length = k + 1 by omega,
    List.cons_append, List.getElem?_cons_succ, List.getElem?_append_left hk, h]

/-- the body of a google block is a literal of its own, reported like a docstring at the line after the one it starts on
    (`lineno = a' + 1`): unless it is empty its `split('\n')` lines are written on the file lines from `a'` on, and it holds
    no character but `\n` that the docstring does not hold -/
theorem google_layout (F : List Str) (a : Nat) (docstr callname : Str) (i : Nat) (e : Ex)
    (hlay : LiteralLayout F a docstr) (he : (googleAll docstr callname (a + 1))[i]? = some e) :
    ∃ a', e.lineno = a' + 1 ∧ (∀ c ∈ e.docsrc, c = '\n' ∨ c ∈ docstr) ∧
      (e.docsrc = [] ∨ LiteralLayout F a' e.docsrc) := by
  obtain ⟨b, pre, l0, val, post, _, h1, _, _, h4, _, h6⟩ := google_offset_is_tag_index docstr callname (a + 1) i e he
  -- a body line is a suffix of the docstring line `pre.length + 1` places further down (two dedents and a padding on the way)
  have hbody : ∀ k bl, (dedentLines val)[k]? = some bl →
      ∃ l, (splitOn '\n' docstr)[pre.length + 1 + k]? = some l ∧ bl <:+ l := by
    intro k bl hk
    obtain ⟨vl, hvl, hs1⟩ := dedentLines_suffix val k bl hk
    obtain ⟨l, hl, hs2⟩ := prepLines_suffix docstr (pre.length + 1 + k) vl (by omega)
      (by rw [h1]; exact getElem?_append_cons_append pre val post l0 k vl hvl)
    exact ⟨l, hl, hs1.trans hs2⟩
  have hmem : ∀ bl ∈ dedentLines val, ∀ c ∈ bl, c ≠ '\n' ∧ c ∈ docstr := by
    intro bl hbl c hc
    obtain ⟨k, hk⟩ := List.getElem?_of_mem hbl
    obtain ⟨l, hl, hs⟩ := hbody k bl hk
    have hl := List.mem_of_getElem? hl
    exact ⟨fun e => sep_not_mem_splitOn '\n' docstr l hl (e ▸ hs.subset hc), mem_splitOn_subset hl c (hs.subset hc)⟩
  refine ⟨a + (pre.length + 1), by rw [h4]; omega, fun c hc => ?_, ?_⟩
  · rcases mem_joinWith (h6 ▸ hc) with h | ⟨bl, hbl, hcl⟩
    · exact Or.inl (List.mem_singleton.mp h)
    · exact Or.inr (hmem bl hbl c hcl).2
  · rw [h6]
    cases hb : dedentLines val with
    | nil => exact Or.inl rfl
    | cons x xs =>
      refine Or.inr fun k bl hk => ?_
      rw [splitOn_joinWith_noNL x xs fun l hl hm => (hmem l (hb ▸ hl) _ hm).1 rfl, ← hb] at hk
      obtain ⟨l, hl, hs⟩ := hbody k bl hk
      obtain ⟨fl, hfl, hi⟩ := hlay _ l hl
      exact ⟨fl, by rw [Nat.add_assoc]; exact hfl, hs.isInfix.trans hi⟩

/-- ★ `part_line_is_file_line_google`: every body line of a google example is where `lineno` says. For the `i`-th example of a docstring that
    starts on file line `a + 1`, line `k` of the example's source (`part.line_offset = k` for a part
    that starts there) is the text of file line number `lineno + k`, i.e. `F[lineno + k - 1]`, up to
    the indentation `dedent` removed -/
theorem part_line_is_file_line_google (F : List Str) (a : Nat) (docstr callname : Str) (i : Nat) (e : Ex)
    (hlay : LiteralLayout F a docstr) (he : (googleAll docstr callname (a + 1))[i]? = some e) :
    ∃ body, e.docsrc = joinWith ['\n'] body ∧
      ∀ k bl, body[k]? = some bl → ∃ fl, F[e.lineno + k - 1]? = some fl ∧ bl <:+: fl := by
  obtain ⟨a', ha', _, h | h⟩ := google_layout F a docstr callname i e hlay he
  · exact ⟨[], h, fun k bl hk => nomatch hk⟩
  · refine ⟨splitOn '\n' e.docsrc, (joinWith_splitOn '\n' _).symm, fun k bl hk => ?_⟩
    rw [ha', show a' + 1 + k - 1 = a' + k by omega]
    exact h k bl hk

/-- ★ `freeform_offset_is_first_part_offset`: `curr_offset` is the parser offset of the first kept part; the re-based
    offsets add up -/
theorem freeform_offset_is_first_part_offset (pieces : List FPiece) (callname : Str) (lineno : Nat) (e : Ex)
    (ht : Tiled 0 pieces) (he : e ∈ freeform pieces callname lineno) :
    ∃ p0 ps, (pieces.foldl fstep {}).curParts = p0 :: ps ∧
      e.lineno = lineno + p0.lineOffset ∧ e.num = 0 ∧ e.parts = some (rebase (p0 :: ps)) ∧
      ∀ p ∈ p0 :: ps, p0.lineOffset ≤ p.lineOffset := by
  have inv := FInv.foldl pieces {} 0 FInv.init ht
  cases hc : (pieces.foldl fstep {}).curParts with
  | nil => rw [freeform_of_nil _ _ hc] at he; cases he
  | cons p0 ps =>
    have h0 := inv.ofHead p0 (by rw [hc]; rfl)
    rw [freeform_of_cons _ _ hc, List.mem_singleton] at he
    subst he
    exact ⟨p0, ps, rfl, by rw [h0], rfl, rfl, fun p hp => h0 ▸ inv.below p (hc ▸ hp)⟩

/-- ★ `part_line_is_file_line_freeform`: every freeform part is where `lineno + line_offset` says. After the re-basing, the docstring
    line at which the parser placed the `k`-th kept part is the text of file line number
    `lineno + part.line_offset`, and the first part has offset 0 (so `lineno` is the first prompt) -/
theorem part_line_is_file_line_freeform (F : List Str) (a : Nat) (docstr callname : Str)
    (pieces : List FPiece) (e : Ex) (hlay : LiteralLayout F a docstr) (ht : Tiled 0 pieces)
    (he : e ∈ freeform pieces callname (a + 1)) :
    ∃ orig reb, (pieces.foldl fstep {}).curParts = orig ∧ e.parts = some reb ∧ reb.length = orig.length ∧
      (∀ p', reb[0]? = some p' → p'.lineOffset = 0) ∧
      ∀ (k : Nat) (p p' : Part) (l : Str), orig[k]? = some p → reb[k]? = some p' →
        (splitOn '\n' docstr)[p.lineOffset]? = some l →
        ∃ fl, F[e.lineno + p'.lineOffset - 1]? = some fl ∧ l <:+: fl := by
  obtain ⟨p0, ps, h1, h2, _, h4, h5⟩ := freeform_offset_is_first_part_offset pieces callname (a + 1) e ht he
  refine ⟨p0 :: ps, rebase (p0 :: ps), h1, h4, by simp [rebase], fun p' hp' => ?_, fun k p p' l hp hp' hl => ?_⟩
  · rw [rebase_getElem?] at hp'
    cases hp'; exact Nat.sub_self _
  · rw [rebase_getElem?, hp] at hp'
    cases hp'
    obtain ⟨fl, hfl, hs⟩ := hlay _ l hl
    have hle := h5 p (List.mem_of_getElem? hp)
    refine ⟨fl, ?_, hs⟩
    rw [h2, show a + 1 + p0.lineOffset + (p.lineOffset - p0.lineOffset) - 1 = a + p.lineOffset by omega]
    exact hfl

/-- ★ an exception: `failed_lineno = lineno + part.line_offset + tb_lineno - 1`, the file line of line
    `tb_lineno` (1-based, from the OUTERMOST traceback frame that belongs to the doctest) of the
    failing part: the raising line inside a multi-line statement, or the doctest line that called
    the failing code -/
theorem failed_lineno_exception (lineno : Nat) (p : Part) (i t : Nat) (ht : 1 ≤ t) :
    failedLineno lineno p { kind := .exception, partIdx := i, tbLineno := t } =
      (lineno + p.lineOffset) + (t - 1) := by
  simp only [failedLineno, failedLineOffset]
  rw [Nat.add_sub_assoc ht, Nat.add_assoc]

/-- an error found when the part is compiled is located the same way (`lineno` of the error) -/
theorem failed_lineno_compile (lineno : Nat) (p : Part) (i t : Nat) (ht : 1 ≤ t) :
    failedLineno lineno p { kind := .compile, partIdx := i, tbLineno := t } =
      (lineno + p.lineOffset) + (t - 1) := by
  simp only [failedLineno, failedLineOffset]
  rw [Nat.add_sub_assoc ht, Nat.add_assoc]

/-- ★ a got/want mismatch: the first line of the offending want (it follows the part's exec lines) -/
theorem failed_lineno_gotwant (lineno : Nat) (p : Part) (i t : Nat) :
    failedLineno lineno p { kind := .gotWant, partIdx := i, tbLineno := t } =
      (lineno + p.lineOffset) + p.nExecLines := by
  simp only [failedLineno, failedLineOffset]
  rw [Nat.add_sub_cancel, Nat.add_assoc]

/-- non-vacuity: a part at offset 3 of a doctest reported at line 10, 2 exec lines; the exception is
    raised on the second line of the statement -/
example : failedLineno 10 { execLines := ["f(".toList, "  1/0)".toList], lineOffset := 3 }
    { kind := .exception, partIdx := 0, tbLineno := 2 } = 14 := by decide +kernel
example : failedLineno 10 { execLines := ["f(".toList, "  1)".toList], wantLines := some ["x".toList], lineOffset := 3 }
    { kind := .gotWant, partIdx := 0 } = 15 := by decide +kernel

def lineno_is_first_prompt_google_statement : Prop :=
  ∀ (docstr callname : Str) (lineno i : Nat) (e : Ex),
    (googleAll docstr callname lineno)[i]? = some e →
    ∀ body, e.docsrc = joinWith ['\n'] body →
      ∃ l, body[0]? = some l ∧ startsWith ">>>".toList (lstrip l) = true

/-- ★ `lineno_is_first_prompt_google_false`: `lineno` is the first prompt only in part. Freeform — `lineno` IS the line of the first part (offset 0 after re-basing, see
    `part_line_is_file_line_freeform`); google — `lineno` is the first line of the block BODY
    (`google_offset_is_tag_index`), which is the first prompt exactly when the body starts with a
    prompt. Otherwise (K-C08-a) `lineno` points at the prose/blank line that opens the body, while
    `lineno + parts[0].line_offset` is still the first prompt. Witness: -/
theorem lineno_is_first_prompt_google_false : ¬ lineno_is_first_prompt_google_statement := by
  intro h
  have := h "Example:\n    some text\n    >>> f()\n".toList "f".toList 1 0
    { callname := "f".toList, num := 0, lineno := 2, docsrc := "some text\n>>> f()\n".toList,
      blockType := some "Example".toList } (by decide_lits)
    ["some text".toList, ">>> f()".toList, []] (by decide_lits)
  obtain ⟨l, h1, h2⟩ := this
  simp at h1; subst h1
  revert h2; decide_lits

/-- ◐ what does hold for google (partial): the reported line is the line after the tag line -/
theorem lineno_is_first_prompt_partial (docstr callname : Str) (lineno i : Nat) (e : Ex)
    (he : (googleAll docstr callname lineno)[i]? = some e) :
    ∃ b, (exampleBlocks docstr)[i]? = some b ∧ e.lineno = lineno + b.offset + 1 := by
  obtain ⟨b, pre, _, _, _, h0, _, h2, _, h4, _⟩ := google_offset_is_tag_index docstr callname lineno i e he
  exact ⟨b, h0, by rw [h4, h2]⟩

/-- non-vacuity of `LiteralLayout`: `def f():` / `    """a` / `    b"""` holds the docstring `a\n    b` from file line index 1 -/
example : LiteralLayout ["def f():".toList, "    \"\"\"a".toList, "    b\"\"\"".toList] 1 "a\n    b".toList := by
  exact literalLayout_of_all (by decide_lits)

/-- non-vacuity of `Tiled` and of the freeform theorems: prose (2 lines), a part of 2 lines at offset 2, prose,
    a part at offset 5 -/
def demoPieces : List FPiece :=
  [.text "intro\n".toList,
   .part { execLines := ["x = 1".toList], wantLines := some ["1".toList], lineOffset := 2,
           origLines := some [">>> x = 1".toList] },
   .text "between".toList,
   .part { execLines := ["y = 2".toList], lineOffset := 5, origLines := some [">>> y = 2".toList] }]

example : Tiled 0 demoPieces := ⟨rfl, rfl, trivial⟩

example : (freeform demoPieces "f".toList 10).map (fun e => (e.lineno, (e.parts.getD []).map (·.lineOffset))) =
    [(12, [0, 3])] := by decide +kernel

end Xdoc.C08
