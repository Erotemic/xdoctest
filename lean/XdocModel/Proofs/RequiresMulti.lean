import XdocModel.Lemmas.Directive
/-!
# Every condition of a REQUIRES directive counts on its own (property C04)

`Directive.effects()` yields one effect per condition of `REQUIRES(c₁, …, cₙ)`, `RuntimeState.update` applies them one after
the other.
-/
namespace Xdoc.C04
open Xdoc Py

/-- ★ **every condition of a block REQUIRES directive counts on its own.** After `# xdoctest: +REQUIRES(c₁, …, cₙ)` the pending set is the old one
    plus EVERY unmet `cᵢ`; after `-REQUIRES(c₁, …, cₙ)` it is the old one minus EVERY unmet `cᵢ` — for every list of conditions, in any order,
    with met ones anywhere in between. (Keying the collected effects by `effect.key`, so that only the LAST unmet
    condition survives, violates exactly this: seeded change C04-5A.) -/
theorem requires_block_every_condition (satb : Str → Bool) (pos : Bool) (args : List Str) (s : RState) :
    ∃ s', RState.applyDirective (fun a => some (satb a)) s
        { name := "REQUIRES", positive := pos, args := args, inline := false } = some s' ∧
      ∀ x, x ∈ s'.gReq ↔
        if pos then x ∈ s.gReq ∨ (x ∈ args ∧ satb x = false)
        else x ∈ s.gReq ∧ ¬ (x ∈ args ∧ satb x = false) := by
  rw [RState.applyDirective, effects_requires_total]
  exact ⟨_, rfl, mem_gReq_foldl_requires satb pos args s⟩

/-- non-vacuity, and the input on which seeded change C04-5A differs: `+REQUIRES(a, b)` with both unmet, then `-REQUIRES(b)`: `a` is still pending -/
example :
    let sat : Str → Option Bool := fun _ => some false
    let s0 : RState := { gBools := [] }
    ((RState.applyDirective sat s0 { name := "REQUIRES", positive := true, args := ["a".toList, "b".toList], inline := false }).bind
      fun s1 => RState.applyDirective sat s1 { name := "REQUIRES", positive := false, args := ["b".toList], inline := false }).map (·.gReq)
      = some ["a".toList] := by decide_lits

end Xdoc.C04
