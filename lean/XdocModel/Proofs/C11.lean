import XdocModel.Lemmas.World
/-!
# C11 — Runs are isolated: a doctest behaves the same whatever ran before it

About the world model (`World.lean`), for ALL programs, requirement oracles `sat`, execution oracles
`sem` (whose result may depend only on the namespace they are given — the modelling assumption),
worlds and histories (any order, repetition, subset).
-/
namespace Xdoc.C11
open Xdoc Py

variable {P : Prog} {sat : Str → Option Bool} {sem : Sem}

/-- ★ assignments made by doctests never rebind the globals of the module under test -/
theorem module_globals_never_rebound (P : Prog) (sat : Str → Option Bool) (sem : Sem) (w : World)
    (h : History) : (execHist P sat sem w h).moduleGlobals = w.moduleGlobals :=
  execHist_moduleGlobals w h

/-- ★ no run modifies `DEFAULT_RUNTIME_STATE` (every run works on a deep copy) -/
theorem template_never_modified (P : Prog) (sat : Str → Option Bool) (sem : Sem) (w : World)
    (h : History) : (execHist P sat sem w h).template = w.template :=
  execHist_template w h

/-- ★ after ANY history (any doctests, any `on_error`, any directives left
    switched on) the directive state the next run starts from is `freshRs`: the template plus the
    doctest's own configuration -/
theorem runstate_fresh (P : Prog) (sat : Str → Option Bool) (sem : Sem) (w : World) (h : History)
    (i : Nat) (oe : OnError) (d : DocDef) (hd : P[i]? = some d) (hi : i < w.docs.length) :
    (runDoc P sat sem (execHist P sat sem w h) i oe).2.startRs = freshRs w.template d := by
  have hl : i < (execHist P sat sem w h).docs.length := by rw [execHist_docs_length]; exact hi
  rw [runDoc_of_getElem? hd (List.getElem?_eq_getElem hl)]
  simp only [runCore, startState, execHist_template]

/-- ★ names bound (and anything else left behind) by OTHER doctests never reach doctest `j`:
    whatever the `on_error` modes, the outcome of `j` after a history is its outcome after the
    sub-history of its own runs -/
theorem other_doctests_never_matter (P : Prog) (sat : Str → Option Bool) (sem : Sem) (w : World)
    (h : History) (j : Nat) (oe : OnError) :
    (runDoc P sat sem (execHist P sat sem w h) j oe).2 =
    (runDoc P sat sem (execHist P sat sem w (h.filter (·.1 == j))) j oe).2 :=
  (runDoc_agree_self (agree_execHist_filter j h w w ⟨rfl, rfl, rfl⟩) oe).1

/-- every `global_namespace` is empty (a session start; preserved by returning runs) -/
def Clean (w : World) : Prop := ∀ st ∈ w.docs, st.ns = []

instance (w : World) : Decidable (Clean w) := by unfold Clean; infer_instance

/-- the CPython fact also used by C09: an exception raised by executing doctest code carries a
    frame of the doctest in its traceback -/
def Frames (sem : Sem) : Prop := ∀ doc env i p o l, (sem doc env i p).1 ≠ .raised o l none

/-- a returning native run keeps the world clean: the doctest that ran ends cleared
    (`runCore_ret_from_empty`), the others are not touched -/
theorem runDoc_clean {w : World} (hc : Clean w) (hnat : ∀ d ∈ P, d.pytestMode = false)
    (hframe : Frames sem) (i : Nat) : Clean (runDoc P sat sem w i .ret).1 := by
  cases hP : P[i]? with
  | none => rw [runDoc_absent (.inl hP)]; exact hc
  | some d =>
    cases hd : w.docs[i]? with
    | none => rw [runDoc_absent (.inr hd)]; exact hc
    | some st =>
      rw [runDoc_of_getElem? hP hd]
      intro st' hm
      rcases List.mem_or_eq_of_mem_set hm with h | h
      · exact hc st' h
      · subst h
        have hns : st.ns = [] := hc st (List.mem_of_getElem? hd)
        rw [hns]
        exact (runCore_ret_from_empty (sem i) d w.template w.moduleGlobals
          (hnat d (List.mem_of_getElem? hP)) (hframe i)).1

theorem execHist_clean {w : World} (hc : Clean w) (hnat : ∀ d ∈ P, d.pytestMode = false)
    (hframe : Frames sem) (h : History) (hr : ∀ s ∈ h, s.2 = .ret) :
    Clean (execHist P sat sem w h) :=
  execHist_inv Clean h w (fun s hs _ hw => hr s hs ▸ runDoc_clean hw hnat hframe s.1) hc

/-- in a clean world the outcome of a run does not depend on the objects: the fact behind
    `outcome_history_independent` -/
theorem runDoc_outcome_of_clean {w : World} (hc : Clean w) (i : Nat) (oe : OnError) :
    (runDoc P sat sem w i oe).2 =
      match P[i]? with
      | some d => if i < w.docs.length then (runCore sat (sem i) d oe w.template w.moduleGlobals []).2
                  else Outcome.absent
      | none => Outcome.absent := by
  cases hP : P[i]? with
  | none => rw [runDoc_absent (.inl hP)]
  | some d =>
    cases hd : w.docs[i]? with
    | none =>
      have : ¬ i < w.docs.length := fun h => by rw [List.getElem?_eq_getElem h] at hd; cases hd
      simp [runDoc_absent (.inr hd), this]
    | some st =>
      simp [runDoc_of_getElem? hP hd, (List.getElem?_eq_some_iff.mp hd).1, hc st (List.mem_of_getElem? hd)]

theorem runDoc_after_clean_history {w0 : World} (hclean : Clean w0)
    (hnat : ∀ d ∈ P, d.pytestMode = false) (hframe : Frames sem) (h : History)
    (hr : ∀ s ∈ h, s.2 = .ret) {i : Nat} {d : DocDef} (hd : P[i]? = some d) (hi : i < w0.docs.length) :
    (runDoc P sat sem (execHist P sat sem w0 h) i .ret).2 =
      (runCore sat (sem i) d .ret w0.template w0.moduleGlobals []).2 := by
  rw [runDoc_outcome_of_clean (execHist_clean hclean hnat hframe h hr), hd]
  simp [execHist_docs_length, hi, execHist_template, execHist_moduleGlobals]

/-- ★ start a session with empty namespaces (`Clean`; every other
    persisted field of every object may hold anything). For all histories h₁ h₂ of runs under
    `on_error='return'` in native mode — any order, repetition, subset — the outcome and the logged
    output of doctest `i` after h₁ and after h₂ coincide. -/
theorem outcome_history_independent (P : Prog) (sat : Str → Option Bool) (sem : Sem) (w0 : World)
    (hclean : Clean w0) (hnat : ∀ d ∈ P, d.pytestMode = false) (hframe : Frames sem)
    (h₁ h₂ : History) (hr₁ : ∀ s ∈ h₁, s.2 = .ret) (hr₂ : ∀ s ∈ h₂, s.2 = .ret) (i : Nat) :
    (runDoc P sat sem (execHist P sat sem w0 h₁) i .ret).2 =
    (runDoc P sat sem (execHist P sat sem w0 h₂) i .ret).2 := by
  rw [runDoc_outcome_of_clean (execHist_clean hclean hnat hframe h₁ hr₁),
      runDoc_outcome_of_clean (execHist_clean hclean hnat hframe h₂ hr₂)]
  simp only [execHist_template, execHist_moduleGlobals, execHist_docs_length]

/-- ★ names bound by one doctest are not visible to another (nor to a re-run): after any history
    of returning runs, the namespace a doctest starts from holds the module's names and nothing else -/
theorem names_invisible (P : Prog) (sat : Str → Option Bool) (sem : Sem) (w0 : World)
    (hclean : Clean w0) (hnat : ∀ d ∈ P, d.pytestMode = false) (hframe : Frames sem)
    (h : History) (hr : ∀ s ∈ h, s.2 = .ret) (i : Nat) (d : DocDef) (hd : P[i]? = some d)
    (hi : i < w0.docs.length) :
    (runDoc P sat sem (execHist P sat sem w0 h) i .ret).2.startEnv = startEnvOf d w0.moduleGlobals [] := by
  rw [runDoc_after_clean_history hclean hnat hframe h hr hd hi]
  rfl

/-- ★ every returning run leaves its `global_namespace` empty -/
theorem namespace_cleared_after_return (P : Prog) (sat : Str → Option Bool) (sem : Sem) (w0 : World)
    (hclean : Clean w0) (hnat : ∀ d ∈ P, d.pytestMode = false) (hframe : Frames sem)
    (h : History) (hr : ∀ s ∈ h, s.2 = .ret) : Clean (execHist P sat sem w0 h) :=
  execHist_clean hclean hnat hframe h hr

theorem semMini_frames (code : List (List (List Stmt))) : Frames (semMini code) := by
  intro doc env i p o l
  exact execStmts_frames _ _ _ _ _ _ o l

section Examples

/-- two doctests of one module with the global `G = 10`:
    doctest 0: `a = 1`, `G = G + 1`, then `# xdoctest: +SKIP` left switched on;
    doctest 1: `print(G)`, `print('a' in globals())`, `print(a)`  (reads a foreign name) -/
def exProg : Prog :=
  [{ parts := [{ part := { execLines := ["a = 1".toList, "G = G + 1".toList] } },
               { part := { execLines := ["# xdoctest: +SKIP".toList] }, directives := [{ name := "SKIP" }] }] },
   { parts := [{ part := { execLines := ["print(G)".toList, "print('a' in globals())".toList, "print(a)".toList] } }] }]
def exCode : List (List (List Stmt)) :=
  [[[.bind "a" 1, .inc "G"], [.nop]], [[.show "G", .probe "a", .show "a"]]]
def exSat : Str → Option Bool := fun _ => some true
def exW : World := World.initial exProg [("G", 10)]

example : Clean exW := by decide
example : ∀ d ∈ exProg, d.pytestMode = false := by decide
example : (runDoc exProg exSat (semMini exCode) (execHist exProg exSat (semMini exCode) exW
            [(0, .ret), (1, .ret), (0, .ret)]) 1 .ret).2 =
          (runDoc exProg exSat (semMini exCode) (execHist exProg exSat (semMini exCode) exW []) 1 .ret).2 :=
  outcome_history_independent exProg exSat (semMini exCode) exW (by decide) (by decide)
    (semMini_frames exCode) _ _ (by decide) (by decide) 1
/-- the outcome is the non-trivial one: `G` is still 10, `a` is not visible: NameError on line 3 -/
example : (runDoc exProg exSat (semMini exCode) (execHist exProg exSat (semMini exCode) exW
            [(0, .ret), (1, .ret), (0, .ret)]) 1 .ret).2.logged = [(0, "10\nFalse\n".toList)] := by
  decide +kernel
/-- the world after one run of doctest 0, evaluated once for the three examples below -/
theorem exAfter0 :
    let w := execHist exProg exSat (semMini exCode) exW [(0, .ret)]
    (w.docs[0]?.bind (·.runstate)).map (·.getBool "SKIP") = some (some true) ∧
    (runDoc exProg exSat (semMini exCode) w 1 .ret).2.failure =
      some { kind := .exception, partIdx := 0, tbLineno := 3 } ∧
    (runDoc exProg exSat (semMini exCode) w 1 .ret).2.startRs.getBool "SKIP" = some false := by
  decide +kernel
example : (runDoc exProg exSat (semMini exCode) (execHist exProg exSat (semMini exCode) exW
            [(0, .ret)]) 1 .ret).2.failure = some { kind := .exception, partIdx := 0, tbLineno := 3 } :=
  exAfter0.2.1
example : ((execHist exProg exSat (semMini exCode) exW [(0, .ret)]).docs[0]?.bind (·.runstate)).map
            (·.getBool "SKIP") = some (some true) := exAfter0.1
example : (runDoc exProg exSat (semMini exCode) (execHist exProg exSat (semMini exCode) exW
            [(0, .ret)]) 1 .ret).2.startRs.getBool "SKIP" = some false :=
  exAfter0.2.2

/-- K-C11-a: one doctest made from a bare string: `print('y' in globals())`, `y = 1`,
    `raise ValueError('boom')` -/
def kProg : Prog :=
  [{ parts := [{ part := { execLines := ["print('y' in globals())".toList, "y = 1".toList,
                                          "raise ValueError('boom')".toList] } }],
     hasModule := false }]
def kCode : List (List (List Stmt)) := [[[.probe "y", .bind "y" 1, .fail]]]
def kW : World := World.initial kProg []

/-- ☆ witness of K-C11-a: run under `on_error='raise'` the failure propagates and the namespace is
    NOT cleared; a re-run of the same object then prints `True` where a fresh one prints `False` -/
theorem stale_names_after_raise :
    (runDoc kProg exSat (semMini kCode) kW 0 .raise).2.ending = .raised .exception ∧
    ((runDoc kProg exSat (semMini kCode) kW 0 .raise).1.docs[0]?.map (·.ns)) = some [("y", 1)] ∧
    (runDoc kProg exSat (semMini kCode) (runDoc kProg exSat (semMini kCode) kW 0 .raise).1 0 .ret).2.logged
      = [(0, "True\n".toList)] ∧
    (runDoc kProg exSat (semMini kCode) kW 0 .ret).2.logged = [(0, "False\n".toList)] := by
  unfold kProg kCode kW; decide_lits

/-- the same object re-run after a RETURNING failure is clean again (the finding needs `raise`) -/
example : (runDoc kProg exSat (semMini kCode) (runDoc kProg exSat (semMini kCode) kW 0 .ret).1 0 .ret).2.logged
    = [(0, "False\n".toList)] := by unfold kProg kCode kW; decide_lits

end Examples

end Xdoc.C11
