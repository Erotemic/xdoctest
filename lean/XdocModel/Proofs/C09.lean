import XdocModel.Lemmas.Example
import XdocModel.Proofs.C02
import XdocModel.Proofs.C03
/-!
# C09 — Every failure is recorded and rendered; one bad doctest never aborts the run

The exception ladder of `DocTest.run` as decisions of the model. "Whatever goes wrong" is the
list of fault kinds of the property; each is shown to be *recorded* (a failure value, hence a
summary marked failed) and `run(on_error='return')` is shown never to raise.
-/
namespace Xdoc.C09
open Xdoc Py

variable {Env : Type}

/-- ★ `return_mode_never_raises`: asked to return errors, a native run always returns a summary —
    for all part lists, oracles and configurations — provided every exception raised by executing
    doctest code carries a doctest frame in its traceback (CPython guarantees that for code run
    by `exec`/`eval` of the compiled part; the harness checks it on every observed run). -/
theorem return_mode_never_raises (sat : Str → Option Bool)
    (sem : Env → Nat → RunPart → ExecResult × Env) (cfg : RunCfg) (env0 : Env) (parts : List RunPart)
    (hret : cfg.onError = .ret) (hnat : cfg.pytestMode = false)
    (hframe : ∀ env i p o l, (sem env i p).1 ≠ .raised o l none) :
    (run sat sem cfg env0 parts).ending = .returned := by
  rw [run_eq]
  exact (run_result sat sem cfg env0 parts).runEnding_returned hret hnat hframe

/-- ★ the summary is marked failed exactly when a failure was recorded -/
theorem failed_iff_failure_recorded (sat : Str → Option Bool)
    (sem : Env → Nat → RunPart → ExecResult × Env) (cfg : RunCfg) (env0 : Env) (parts : List RunPart) :
    (run sat sem cfg env0 parts).summary.failed = (run sat sem cfg env0 parts).state.failure.isSome := by
  rw [run_summary]; rfl

/-- ★ a recorded failure always names an existing part (so the report can locate and show it) -/
theorem failure_names_part (sat : Str → Option Bool)
    (sem : Env → Nat → RunPart → ExecResult × Env) (cfg : RunCfg) (env0 : Env) (parts : List RunPart)
    (fl : Failure) (h : (run sat sem cfg env0 parts).state.failure = some fl) :
    fl.partIdx < parts.length :=
  (C02.failure_stops sat sem cfg env0 parts fl h).1

theorem wrong_output_recorded (f : Flags) (want out : Str) (ev : EvalResult) (unm : List Str)
    (h : partCheck f want out ev unm = .differs) :
    decideExec f false (some want) unm (.ok out ev) = .halt true out (some (.gotWant, 1)) := by
  rw [C02.want_decision, h]

/-- exception in the doctest, in code it calls, or in a helper defined by an earlier part
    (all three are an exception with a doctest frame in its traceback) without a matching want -/
theorem exception_recorded (f : Flags) (iw : Bool) (unm : List Str) (out line : Str) (ln : Nat) :
    decideExec f iw none unm (.raised out line (some ln)) = .halt true out (some (.exception, ln)) :=
  C03.raise_no_want_fails f iw unm out line ln

theorem compile_error_recorded (f : Flags) (iw : Bool) (want : Option Str) (unm : List Str) (ln : Option Nat) :
    decideExec f iw want unm (.compileError ln) = .halt false [] (some (.compile, ln.getD 1)) := rfl

theorem repr_raises_never_differs (f : Flags) (want out : Str) (unm : List Str) :
    partCheck f want out .reprRaises unm ≠ .differs := by
  have nd : ∀ c, checkGotVsWant f want c .reprRaises ≠ .differs := by
    intro c h
    unfold checkGotVsWant at h
    simp only at h
    split at h <;> (try split at h) <;> cases h
  intro h
  rw [partCheck, C02.checkTrailing_eq, C02.verdictOf_differs_iff] at h
  -- the shortest candidate is `out` itself
  exact nd _ (h _ (List.mem_map_of_mem ((C02.mem_candidates_iff _ _ _).mpr ⟨0, Nat.zero_le _, rfl⟩)))

theorem repr_raises_recorded (f : Flags) (want out : Str) (unm : List Str) :
    decideExec f false (some want) unm (.ok out .reprRaises) = .ran out .clear ∨
    decideExec f false (some want) unm (.ok out .reprRaises) = .halt true out (some (.reprError, 1)) := by
  rw [C02.want_decision]
  have := repr_raises_never_differs f want out unm
  cases h : partCheck f want out .reprRaises unm
  · exact Or.inl rfl
  · exact absurd h this
  · exact Or.inr rfl

theorem import_error_recorded (sat : Str → Option Bool) (sem : Env → Nat → RunPart → ExecResult × Env)
    (cfg : RunCfg) (s : RunState Env) (i : Nat) (p : RunPart) (rs : RState)
    (h : preStage sat cfg s.rs s.didImport p = .importFail rs) :
    stepPart sat sem cfg s i p =
      .stop { s with rs := rs, failure := some { kind := .importError, partIdx := i, tbLineno := 1 } }
        (endOf cfg .importError) := by
  rw [stepPart, h]; rfl

/-- a malformed directive (`RuntimeState.update` raises) -/
theorem malformed_directive_recorded (sat : Str → Option Bool) (sem : Env → Nat → RunPart → ExecResult × Env)
    (cfg : RunCfg) (s : RunState Env) (i : Nat) (p : RunPart)
    (h : s.rs.update sat p.directives = none) :
    stepPart sat sem cfg s i p =
      .stop { s with failure := some { kind := .directive, partIdx := i, tbLineno := 1 } }
        (endOf cfg .directive) := by
  rw [stepPart, preStage, h]; rfl

/-- ★ the context line quoted under a doctest frame is total: a frame whose line number lies
    beyond the failing part (a helper defined by an earlier, longer part) yields no context line
    instead of an index error -/
theorem tbContextLine_total (p : Part) (n : Nat) :
    (∃ l, tbContextLine p n = some l ∧ ∃ ls, p.origLines = some ls ∧ ls[n - 1]? = some l ∧ 0 < n ∧ n ≤ ls.length) ∨
    tbContextLine p n = none := by
  unfold tbContextLine
  cases h : p.origLines with
  | none => exact Or.inr rfl
  | some ls =>
    simp only
    split
    · rename_i hc
      cases hl : ls[n - 1]? with
      | none => exact Or.inr rfl
      | some l => exact Or.inl ⟨l, rfl, ls, rfl, hl, hc.1, hc.2⟩
    · exact Or.inr rfl

example : tbContextLine { execLines := [], origLines := some [">>> helper(1)".toList] } 5 = none := by
  decide_lits
example : tbContextLine { execLines := [], origLines := some [">>> helper(1)".toList] } 1
    = some ">>> helper(1)".toList := by decide_lits

end Xdoc.C09
