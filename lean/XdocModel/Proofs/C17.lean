import XdocModel.Lemmas.Import
/-!
# C17 — module name ↔ path resolution agrees with Python's import system

All statements quantify over ALL file systems `fs` (two arbitrary predicates on component lists),
all search path entries and all dotted names of any depth. The comparisons with the interpreter and `roundtrip`
assume `FS.WF fs` (`Lemmas/Import`), which every real tree satisfies: a file is not a directory, and whatever
exists lies in a directory.

Decision on PEP 420 namespace packages: the specification `pyResolve` is the *regular-package*
rule of `importlib`'s `FileFinder` (a spec with a loader). A directory without `__init__.py`
only yields a namespace *portion* (`spec.loader is None`, no file, no package directory), so it
ends the resolution — which is what xdoctest does (its docstrings say so; `TODO: PEP 420`). That
the interpreter can nevertheless import `ns.mod` through a namespace package is recorded by the
harness as known finding K-C17-a, not hidden in the model.
-/
namespace Xdoc.C17
open Xdoc Py Import

/-- ★ One search path entry: `_syspath_modname_to_modpath` finds exactly the package directory /
    module file that `FileFinder`, applied component by component, finds — and nothing when it
    finds nothing. Guard `NoInitDir`: `_isvalid` uses `exists` where the interpreter uses
    `isfile` (see `resolve_ne_python_init_directory` for the excluded point). -/
theorem resolve_eq_python (fs : FS) (hwf : FS.WF fs) (hinit : NoInitDir fs)
    (base : Path) (n : List Comp) (hn : n ≠ []) :
    checkDpath fs base n = (pyResolve fs base n).map Found.path := by
  -- one component at a time: with more to come, both sides descend into `base/c` exactly when `base/c/__init__.py`
  -- is a file (`hinit` turns the `exists` of `_isvalid` into `isfile`); the last component is `checkDpath_single`
  induction n generalizing base with
  | nil => exact absurd rfl hn
  | cons c rest ih =>
    cases rest with
    | nil => exact checkDpath_single fs base c
    | cons c' cs =>
      rw [checkDpath_cons fs base c (List.cons_ne_nil _ _), hinit.ex_eq, pyResolve_cons, finderStep_of_wf hwf]
      cases fs.isFile (base ++ [c] ++ [initPy])
      · simp only [Bool.false_eq_true, ↓reduceIte]
        split <;> rfl
      · exact ih (base ++ [c]) (List.cons_ne_nil _ _)

/-- ★ `modname_to_modpath(name, hide_init=False, sys_path=[entry])` is the `origin` of the spec
    the interpreter finds: the very file whose code would be executed. -/
theorem resolve_origin_eq_python (fs : FS) (hwf : FS.WF fs) (hinit : NoInitDir fs)
    (base : Path) (n : List Comp) (hn : n ≠ []) :
    modnameToModpath fs [base] n false false = (pyResolve fs base n).map Found.origin := by
  simp only [modnameToModpath, syspathResolve_single, resolve_eq_python fs hwf hinit base n hn]
  cases hr : pyResolve fs base n with
  | none => rfl
  | some r =>
    have hfile := pyResolve_isFile fs hwf base n r hr
    rw [Option.map_some, Option.map_some, Option.map_some, normalizeModpath_show_init]
    cases r with
    | pkg d => rw [Found.path, if_pos (FS.ex_of_isFile (p := d ++ [initPy]) hfile)]; rfl
    | mod f =>
      -- a file has no children
      have : fs.ex (f ++ [initPy]) = false := Bool.eq_false_iff.mpr fun hq =>
        Bool.false_ne_true ((hwf.file_not_dir _ hfile).symm.trans (hwf.parent_dir _ _ hq))
      rw [Found.path, this]; rfl

/-- ★ "nothing when the interpreter would find nothing there" -/
theorem importable_iff_python (fs : FS) (hwf : FS.WF fs) (hinit : NoInitDir fs)
    (base : Path) (n : List Comp) (hn : n ≠ []) :
    isImportable fs [base] n = (pyResolve fs base n).isSome := by
  simp only [isImportable, syspathResolve_single, resolve_eq_python fs hwf hinit base n hn]
  cases pyResolve fs base n <;> rfl

/-- ★ what `_isvalid` decides: every directory strictly between the search path entry and the
    module holds an `__init__.py` -/
theorem isvalid_spec (fs : FS) (base : Path) (rel : List Comp) :
    isValid fs base rel = true ↔
      ∀ pre suf, rel.dropLast = pre ++ suf → pre ≠ [] → fs.ex (base ++ pre ++ [initPy]) = true := by
  unfold isValid
  exact isValidUp_iff fs base rel.dropLast

/-- ★ the literal walk of `_isvalid` (compare `subdir` with `base`, go to `dirname`) stops at the
    entry for every path `check_dpath` builds (`join(base, …)`): it never reaches the root, where
    the real loop would spin if `/__init__.py` existed; and it computes `isValidUp`. The model
    functions themselves are structurally recursive (no fuel). -/
theorem isvalid_terminates (fs : FS) (base : Path) (dirs : List Comp) :
    isValidWalk fs base (base ++ dirs).reverse = some (isValidUp fs base dirs.reverse) := by
  rw [List.reverse_append]
  generalize dirs.reverse = up
  induction up with
  | nil =>
    rw [List.nil_append]
    cases hb : base.reverse with
    | nil => simp [isValidWalk, isValidUp, List.reverse_eq_nil_iff.mp hb]
    | cons d u => simp [isValidWalk, isValidUp, ← hb]
  | cons x u ih =>
    have hrev : (x :: (u ++ base.reverse)).reverse = base ++ (x :: u).reverse := by simp
    have hne : base ++ (x :: u).reverse ≠ base := by
      intro h
      have := congrArg List.length h
      simp at this
    simp only [List.cons_append, isValidWalk, hrev, hne, ↓reduceIte, isValidUp, ih]
    cases fs.ex (base ++ (x :: u).reverse ++ [initPy]) <;> simp

/-- ★ `split_modpath(p)` returns `(d, rel)` with `d ++ rel = p`, no `__init__.py` in `d`, one in
    every directory of `rel` (so `d` is the directory that must be on the search path); `p` exists
    and, when a directory, is a package. -/
theorem split_modpath_spec (fs : FS) (p : Path) (hp : p ≠ []) (d : Path) (rel : List Comp)
    (h : splitModpath fs p = .ok (d, rel)) :
    d ++ rel = p ∧ rel ≠ [] ∧ fs.ex (d ++ [initPy]) = false ∧
    (∀ pre suf, rel = pre ++ suf → pre ≠ [] → suf ≠ [] → fs.ex (d ++ pre ++ [initPy]) = true) ∧
    fs.ex p = true ∧ (fs.isDir p = true → fs.ex (p ++ [initPy]) = true) := by
  rcases List.eq_nil_or_concat p with rfl | ⟨dir, f, rfl⟩
  · exact absurd rfl hp
  · rw [List.concat_eq_append] at h ⊢
    obtain ⟨hex, hdir, heq, hne, hv, hno⟩ := (splitModpath_ok_iff fs dir f d rel).mp h
    refine ⟨heq, hne, hno, ?_, hex, hdir⟩
    intro pre suf he hpre hsuf
    exact (isvalid_spec fs d rel).mp hv pre suf.dropLast
      (by rw [he, List.dropLast_append_of_ne_nil hsuf]) hpre

/-- ★ the specification determines the answer: there is exactly one such split -/
theorem split_modpath_unique (fs : FS) (d d' : Path) (rel rel' : List Comp)
    (heq : d ++ rel = d' ++ rel') (hne : rel ≠ []) (hne' : rel' ≠ [])
    (hd : fs.ex (d ++ [initPy]) = false) (hd' : fs.ex (d' ++ [initPy]) = false)
    (hr : ∀ pre suf, rel = pre ++ suf → pre ≠ [] → suf ≠ [] → fs.ex (d ++ pre ++ [initPy]) = true)
    (hr' : ∀ pre suf, rel' = pre ++ suf → pre ≠ [] → suf ≠ [] → fs.ex (d' ++ pre ++ [initPy]) = true) :
    d = d' ∧ rel = rel' := by
  rcases List.append_eq_append_iff.mp heq with ⟨a, ha, hb⟩ | ⟨c, hc, hb⟩
  · cases a with
    | nil => simp at ha hb; exact ⟨ha.symm, hb⟩
    | cons x xs =>
      have := hr (x :: xs) rel' hb (by simp) hne'
      rw [← ha, hd'] at this
      cases this
  · cases c with
    | nil => simp at hc hb; exact ⟨hc, hb.symm⟩
    | cons x xs =>
      have := hr' (x :: xs) rel hb (by simp) hne
      rw [← hc, hd] at this
      cases this

/-- for every entry, so also for the one of several that wins -/
theorem roundtrip_entry (fs : FS) (hwf : FS.WF fs) (base : Path) (n : List Comp) (hn : n ≠ [])
    (hok : NameOK n) (hbase : fs.ex (base ++ [initPy]) = false)
    (hleaf : n.getLast? ≠ some initName)
    (q : Path) (hq : checkDpath fs base n = some q) :
    modpathToModname fs (normalizeModpath fs q) = .ok (dotted n) := by
  rcases List.eq_nil_or_concat n with rfl | ⟨dirs, leaf, rfl⟩
  · exact absurd rfl hn
  · simp only [List.concat_eq_append] at *
    rcases checkDpath_some hq with ⟨rfl, hex, hfile, hv⟩ | ⟨rfl, hfile, hv⟩
    · have hne : leaf ≠ initPy := (hok leaf (by simp)).ne_initPy
      rw [← List.append_assoc] at hex hfile ⊢
      rw [normalizeModpath_concat _ _ hne,
        modpathToModname_of_chain fs base dirs leaf hex (fun _ => FS.ex_of_isFile hfile) hne
          (isValid_concat fs base dirs leaf ▸ hv) hbase, relToModname_pkg hok]
    · have hne : leaf ++ dotPy ≠ initPy := ext_ne_initPy (by simpa using hleaf)
      rw [withExt_concat, ← List.append_assoc] at hfile ⊢
      rw [normalizeModpath_concat _ _ hne,
        modpathToModname_of_chain fs base dirs (leaf ++ dotPy) (FS.ex_of_isFile hfile)
          (fun hd => by rw [hwf.file_not_dir _ hfile] at hd; cases hd) hne (isValid_concat fs base dirs leaf ▸ hv) hbase,
        relToModname_py hok]

/-- ★ `modpath_to_modname(modname_to_modpath(name, sys_path=[entry])) == name` (default flags).
    Guards: the name is well formed (`NameOK`: non-empty components without `.` and separators),
    the search path entry is not itself a package (`hbase`; excluded point:
    `roundtrip_fails_entry_is_package`), and the last component is not `__init__` (`hleaf`;
    excluded point: `roundtrip_init_leaf`, the answer is the package's name). -/
theorem roundtrip (fs : FS) (hwf : FS.WF fs) (base : Path) (n : List Comp) (hn : n ≠ [])
    (hok : NameOK n) (hbase : fs.ex (base ++ [initPy]) = false)
    (hleaf : n.getLast? ≠ some initName)
    (p : Path) (h : modnameToModpath fs [base] n = some p) :
    modpathToModname fs p = .ok (dotted n) := by
  simp only [modnameToModpath, syspathResolve_single, Option.map_eq_some_iff] at h
  obtain ⟨q, hq, rfl⟩ := h
  exact roundtrip_entry fs hwf base n hn hok hbase hleaf q hq

/-- ★ the first entry that resolves the name wins -/
theorem first_entry_wins (fs : FS) (b : Path) (bs : List Path) (n : List Comp) (p : Path)
    (h : checkDpath fs b n = some p) : syspathResolve fs (b :: bs) n = some p := by
  rw [syspathResolve_cons, h]

/-- ★ a later entry is consulted only if every earlier one fails -/
theorem later_entry_of_earlier_fail (fs : FS) (b : Path) (bs : List Path) (n : List Comp)
    (h : checkDpath fs b n = none) : syspathResolve fs (b :: bs) n = syspathResolve fs bs n := by
  rw [syspathResolve_cons, h]

/-- no shadowing: every entry that is passed over (it does not resolve the whole name) does not
    know the top-level name either -/
def noShadow (fs : FS) : List Path → List Comp → Bool
  | [], _ => true
  | e :: es, n =>
    (checkDpath fs e n).isSome ||
      (n.head?.all (fun c => (finderStep fs e c).isNone) && noShadow fs es n)

/-- ★ several entries: agreement with `PathFinder` (first entry that knows the TOP-LEVEL name
    fixes the package) unless an earlier entry holds a same-named top-level package/module that
    lacks the submodule (`noShadow`; excluded point: `shadowing_disagrees`). -/
theorem resolve_path_eq_python (fs : FS) (hwf : FS.WF fs) (hinit : NoInitDir fs)
    (entries : List Path) (n : List Comp) (hn : n ≠ []) (hs : noShadow fs entries n = true) :
    syspathResolve fs entries n = (pyResolvePath fs entries n).map Found.path := by
  cases n with
  | nil => exact absurd rfl hn
  | cons c rest =>
    rw [pyResolvePath_cons]
    induction entries with
    | nil => rw [List.findSome?_nil, pyRest_none]; rfl
    | cons e es ih =>
      have he := resolve_eq_python fs hwf hinit e (c :: rest) hn
      rw [pyResolve_cons] at he
      simp only [syspathResolve, List.findSome?_cons] at ih ⊢
      cases hf : finderStep fs e c with
      | none =>
        -- this entry does not know the top-level name: neither side stops here
        rw [hf, pyRest_none] at he
        have hs' : noShadow fs es (c :: rest) = true := by simpa [noShadow, he, hf] using hs
        rw [he]; exact ih hs'
      | some r =>
        -- it does: the interpreter stops here, and `noShadow` says xdoctest resolves here too
        rw [hf] at he
        have hc : (checkDpath fs e (c :: rest)).isSome = true := by simpa [noShadow, hf] using hs
        obtain ⟨p, hp⟩ := Option.isSome_iff_exists.mp hc
        rw [hp, ← he, hp]

/-- ★ `modpath_to_modname(base/d₁/…/leaf.py, relativeto=base/x)` is `d₁.….leaf`: with `relativeto`
    the directory of the root module is taken as the search path entry, whatever `__init__.py`
    files exist (no file system access apart from normalisation). -/
theorem relativeto_spec (fs : FS) (base : Path) (x : Comp) (dirs : List Comp) (leaf : Comp)
    (hok : NameOK (dirs ++ [leaf])) (hleaf : leaf ≠ initName) :
    modpathToModnameRel fs (base ++ dirs ++ [leaf ++ dotPy]) (base ++ [x]) = dotted (dirs ++ [leaf]) := by
  have hne2 : (dirs ++ [leaf ++ dotPy]).isEmpty = false := by cases dirs <;> rfl
  unfold modpathToModnameRel
  rw [normalizeModpath_concat _ _ (ext_ne_initPy hleaf)]
  simp only [List.dropLast_concat, List.append_assoc, relpath_append, hne2, Bool.false_eq_true, ↓reduceIte]
  exact relToModname_py hok

abbrev s (x : String) : Comp := x.toList

/-- `/r` holds: package `a` (with `__main__.py`), sub-package `a.b` with module `a.b.m`, a module
    file `a/b.py` shadowed by the package `a/b/`, a top-level module `top`, a directory `ns`
    without `__init__.py` holding `ns/x.py`, a package `e` (used as a search path entry that is
    itself a package) holding `e.p.q`; `/r2` holds a second top-level package `a` with `a.z`. -/
def exFiles : List Path := [
  [s "r", s "a", s "__init__.py"], [s "r", s "a", s "__main__.py"], [s "r", s "a", s "b.py"],
  [s "r", s "a", s "b", s "__init__.py"], [s "r", s "a", s "b", s "m.py"], [s "r", s "top.py"],
  [s "r", s "ns", s "x.py"],
  [s "r", s "e", s "__init__.py"], [s "r", s "e", s "p", s "__init__.py"], [s "r", s "e", s "p", s "q.py"],
  [s "r2", s "a", s "__init__.py"], [s "r2", s "a", s "z.py"]]
def exDirs : List Path := [
  [], [s "r"], [s "r", s "a"], [s "r", s "a", s "b"], [s "r", s "ns"], [s "r", s "e"],
  [s "r", s "e", s "p"], [s "r2"], [s "r2", s "a"]]
def exFS : FS := FS.ofLists exFiles exDirs

theorem exFS_wf : FS.WF exFS := wf_ofLists _ _ (by decide +kernel)
theorem exFS_noInitDir : NoInitDir exFS := noInitDir_ofLists _ _ (by decide +kernel)

/-- `resolve_eq_python`, non-trivially: a three-component module, a package that beats the module
    file of the same name, a module in a directory without init (not found), an absent name -/
example : checkDpath exFS [s "r"] [s "a", s "b", s "m"] = some [s "r", s "a", s "b", s "m.py"] ∧
    pyResolve exFS [s "r"] [s "a", s "b", s "m"] = some (.mod [s "r", s "a", s "b", s "m.py"]) ∧
    checkDpath exFS [s "r"] [s "a", s "b"] = some [s "r", s "a", s "b"] ∧
    pyResolve exFS [s "r"] [s "a", s "b"] = some (.pkg [s "r", s "a", s "b"]) ∧
    checkDpath exFS [s "r"] [s "ns", s "x"] = none ∧ pyResolve exFS [s "r"] [s "ns", s "x"] = none ∧
    checkDpath exFS [s "r"] [s "a", s "nope"] = none := by decide +kernel
example : checkDpath exFS [s "r"] [s "a", s "b", s "m"]
    = (pyResolve exFS [s "r"] [s "a", s "b", s "m"]).map Found.path :=
  resolve_eq_python exFS exFS_wf exFS_noInitDir _ _ (by simp)
example : modnameToModpath exFS [[s "r"]] [s "a", s "b"] false false
    = some [s "r", s "a", s "b", s "__init__.py"] := by decide +kernel

/-- excluded point of `NoInitDir` (witness): a DIRECTORY named `__init__.py` inside `w` makes
    xdoctest treat `w` as a package (`exists`), the interpreter's regular-package rule (`isfile`)
    does not. The real code agrees with the model here (harness suite `initdir`). -/
theorem resolve_ne_python_init_directory :
    let fs := FS.ofLists [[s "r", s "w", s "m.py"]] [[], [s "r"], [s "r", s "w"], [s "r", s "w", s "__init__.py"]]
    FS.WF fs ∧ checkDpath fs [s "r"] [s "w", s "m"] = some [s "r", s "w", s "m.py"] ∧
      pyResolve fs [s "r"] [s "w", s "m"] = none := by
  refine ⟨wf_ofLists _ _ (by decide +kernel), by decide +kernel, by decide +kernel⟩

/-- `roundtrip`, non-trivially (module, package, `__main__` file), with all guards holding -/
example : NameOK [s "a", s "b", s "m"] ∧ exFS.ex ([s "r"] ++ [initPy]) = false ∧
    [s "a", s "b", s "m"].getLast? ≠ some initName ∧
    modnameToModpath exFS [[s "r"]] [s "a", s "b", s "m"] = some [s "r", s "a", s "b", s "m.py"] ∧
    modpathToModname exFS [s "r", s "a", s "b", s "m.py"] = .ok (s "a.b.m") ∧
    modpathToModname exFS [s "r", s "a", s "b"] = .ok (s "a.b") ∧
    modnameToModpath exFS [[s "r"]] [s "a", s "__main__"] = some [s "r", s "a", s "__main__.py"] ∧
    modpathToModname exFS [s "r", s "a", s "__main__.py"] = .ok (s "a.__main__") ∧
    modpathToModname exFS [s "r", s "a", s "__main__.py"] true true = .ok (s "a") := by
  refine ⟨?_, ?_⟩
  · unfold NameOK CompOK; decide +kernel
  · decide +kernel

/-- excluded point of `hbase` (witness): when the search path entry is itself a package, the
    walk climbs past it and the name comes back prefixed (`p.q ↦ e.p.q`). Same on the real code. -/
theorem roundtrip_fails_entry_is_package :
    modnameToModpath exFS [[s "r", s "e"]] [s "p", s "q"] = some [s "r", s "e", s "p", s "q.py"] ∧
    modpathToModname exFS [s "r", s "e", s "p", s "q.py"] = .ok (s "e.p.q") := by decide +kernel

/-- excluded point of `hleaf` (witness): `a.__init__` resolves to the package directory
    (`hide_init`), whose name is `a`. Same on the real code. -/
theorem roundtrip_init_leaf :
    modnameToModpath exFS [[s "r"]] [s "a", s "__init__"] = some [s "r", s "a"] ∧
    modpathToModname exFS [s "r", s "a"] = .ok (s "a") ∧
    pyResolve exFS [s "r"] [s "a", s "__init__"] = some (.mod [s "r", s "a", s "__init__.py"]) := by
  decide +kernel

/-- `split_modpath_spec`, non-trivially: three levels of packages -/
example : splitModpath exFS [s "r", s "a", s "b", s "m.py"] = .ok ([s "r"], [s "a", s "b", s "m.py"]) ∧
    splitModpath exFS [s "r", s "ns", s "x.py"] = .ok ([s "r", s "ns"], [s "x.py"]) ∧
    splitModpath exFS [s "r", s "ns"] = .error .notAModule ∧
    splitModpath exFS [s "r", s "nope"] = .error .doesNotExist := by decide +kernel

/-- `isvalid_spec` / `isvalid_terminates`, non-trivially (valid chain, broken chain) -/
example : isValid exFS [s "r"] [s "a", s "b", s "m.py"] = true ∧
    isValid exFS [s "r"] [s "ns", s "x.py"] = false ∧
    isValidWalk exFS [s "r"] [s "b", s "a", s "r"] = some true := by decide +kernel

/-- `first_entry_wins` / `resolve_path_eq_python`, non-trivially, and the excluded point of
    `noShadow` (witness): `/r/a` shadows `/r2/a` for the interpreter, so `a.z` is not importable
    with `sys.path = [/r, /r2]`; xdoctest searches every entry for the whole name and finds
    `/r2/a/z.py`. (The property text speaks of ONE search path entry; recorded as an observation.) -/
theorem shadowing_disagrees :
    syspathResolve exFS [[s "r"], [s "r2"]] [s "a", s "z"] = some [s "r2", s "a", s "z.py"] ∧
    pyResolvePath exFS [[s "r"], [s "r2"]] [s "a", s "z"] = none ∧
    syspathResolve exFS [[s "r2"], [s "r"]] [s "a", s "z"] = some [s "r2", s "a", s "z.py"] ∧
    pyResolvePath exFS [[s "r2"], [s "r"]] [s "a", s "z"] = some (.mod [s "r2", s "a", s "z.py"]) := by
  decide +kernel
example : noShadow exFS [[s "r2"], [s "r"]] [s "a", s "z"] = true ∧
    noShadow exFS [[s "r"], [s "r2"]] [s "a", s "z"] = false ∧
    noShadow exFS [[s "r2"], [s "r"]] [s "top"] = true := by decide +kernel

example : modpathToModnameRel exFS [s "r", s "a", s "b", s "m.py"] [s "r", s "a"] = s "a.b.m" ∧
    modpathToModnameRel exFS [s "r", s "ns", s "x.py"] [s "r", s "ns"] = s "ns.x" := by decide +kernel

end Xdoc.C17
