import XdocModel.Lemmas.Google
/-!
# The first-line rule of `split_google_docblocks` (property C07)

A docstring whose text starts on the line of its opening quotes has a first line without margin,
while every other line carries the margin of the code it sits in (blanks **or tabs**).
`split_google_docblocks` pads the first line so that the second `textwrap.dedent` can remove the
margin. `prepLines_margin` says that this works for EVERY margin made of blanks and tabs.
-/
namespace Xdoc.Google
open Xdoc Py

def HasMargin (mg : Str) (l : Str) : Prop :=
  l.all isBlank = true ∨ ∃ t, l = mg ++ t ∧ t.all isBlank = false

/-- ★ `dedentLines_margin`: when every line is whitespace-only or starts with `mg`, and one line has exactly `mg` in
    front of its text, `textwrap.dedent` removes `mg` from every line -/
theorem dedentLines_margin (mg : Str) (ls : List Str) (hmg : mg.all isBlank = true)
    (hall : ∀ l ∈ ls, HasMargin mg l)
    (hwit : ∃ l ∈ ls, ∃ c r, l = mg ++ c :: r ∧ isBlank c = false) :
    dedentLines ls = ls.map (unmargin mg) := by
  rw [dedentLines_eq_map, marginOf_eq]
  · intro l hl hb
    rcases hall l hl with h | ⟨t, rfl, _⟩
    · rw [h] at hb; cases hb
    · exact prefix_takeWhile_margin _ hmg
  · obtain ⟨l, hl, c, r, rfl, hc⟩ := hwit
    exact ⟨_, hl, not_blank_of_margin hmg (by simp [hc]), takeWhile_margin_cons _ hmg hc⟩

/-- ★ `prepLines_margin`: the first-line rule of `split_google_docblocks` (6117f16). The docstring's first line starts with
    text (it follows the opening quotes), every other line is whitespace-only or starts with the margin `mg` — ANY string of
    blanks and tabs — and one of them is indented by exactly the margin. Then the lines the block splitter works on are the
    first line as it is, followed by the other lines with the margin removed (whitespace-only lines emptied). -/
theorem prepLines_margin (docstr : Str) (c0 : Char) (r0 : Str) (body : List Str) (mg : Str)
    (hsplit : splitOn '\n' docstr = (c0 :: r0) :: body)
    (hc0 : isSpace c0 = false)
    (hmg : mg.all isBlank = true)
    (hall : ∀ l ∈ body, HasMargin mg l)
    (hwit : ∃ l ∈ body, ∃ c r, l = mg ++ c :: r ∧ isSpace c = false) :
    prepLines docstr = (c0 :: r0) :: body.map (unmargin mg) := by
  have hb0 : isBlank c0 = false := Bool.eq_false_iff.mpr fun h => by rw [isBlank_isSpace h] at hc0; cases hc0
  have hl0 : (c0 :: r0).all isBlank = false := by simp [hb0]
  have hmgs : mg.all isSpace = true :=
    List.all_eq_true.mpr fun c hc => isBlank_isSpace (List.all_eq_true.mp hmg c hc)
  have hbody : ∀ y ∈ body.map (unmargin []), y = [] ∨ ∃ t, y = mg ++ t ∧ t.all isBlank = false := fun y hy => by
    obtain ⟨l, hl, rfl⟩ := List.mem_map.mp hy
    rcases hall l hl with hb | ⟨t, rfl, ht⟩
    · exact Or.inl (unmargin_of_blank _ hb)
    · exact Or.inr ⟨t, unmargin_nil (not_blank_of_margin hmg ht), ht⟩
  -- the first dedent removes no margin (the first line has none): it only empties the whitespace-only lines
  have hd1 : dedentLines (splitOn '\n' docstr) = (c0 :: r0) :: body.map (unmargin []) := by
    rw [hsplit, dedentLines_eq_map, marginOf_eq (mg := []) (fun _ _ _ => List.nil_prefix)
      ⟨_, List.mem_cons_self, hl0, by rw [List.takeWhile_cons, hb0]; rfl⟩, List.map_cons]
    exact congrArg (· :: _) (unmargin_nil hl0)
  -- the witness survives it, with indentation `mg.length`; it must not start with ANY whitespace (`isSpace`), not only
  -- no blank or tab: the padding rule measures indentation with `str.lstrip`, `dedent` with `[ \t]*`
  obtain ⟨_, hlw, cw, rw', rfl, hcw⟩ := hwit
  have hbw : isBlank cw = false := Bool.eq_false_iff.mpr fun h => by rw [isBlank_isSpace h] at hcw; cases hcw
  have hw' : (mg ++ cw :: rw') ∈ body.map (unmargin []) :=
    List.mem_map.mpr ⟨_, hlw, unmargin_nil (not_blank_of_margin hmg (by simp [hbw]))⟩
  have hwind : getIndentation (mg ++ cw :: rw') = mg.length := by
    rw [getIndentation_append _ _ hmgs, getIndentation_eq, List.takeWhile_cons, hcw]; rfl
  have hmin : (((body.map (unmargin [])).filter (fun l => l.length > 0)).map getIndentation).min? = some mg.length := by
    refine List.min?_eq_some_iff.mpr ⟨List.mem_map.mpr ⟨_, List.mem_filter.mpr ⟨hw', decide_eq_true (List.length_pos_iff.mpr (by simp))⟩, hwind⟩, fun x hx => ?_⟩
    obtain ⟨y, hy, rfl⟩ := List.mem_map.mp hx
    obtain ⟨hy1, hy2⟩ := List.mem_filter.mp hy
    rcases hbody y hy1 with rfl | ⟨t, rfl, _⟩
    · simp at hy2
    · rw [getIndentation_append _ _ hmgs]; exact Nat.le_add_right _ _
  rw [prepLines_padded docstr _ _ _ hd1 (by simp) hmin]
  -- what the first line is padded with is the margin itself
  have hlead : leadOf mg.length (body.map (unmargin [])) = mg := by
    unfold leadOf
    cases hf : (body.map (unmargin [])).find? (fun l => decide (l.length > 0) && getIndentation l == mg.length) with
    | none => simpa [hwind] using List.find?_eq_none.mp hf _ hw'
    | some y =>
      have hp := List.find?_some hf
      simp only [Bool.and_eq_true, decide_eq_true_eq, beq_iff_eq] at hp
      rcases hbody y (List.mem_of_find?_eq_some hf) with rfl | ⟨t, rfl, _⟩
      · simp at hp
      · simp
  -- the second dedent removes exactly the margin: the padded first line has it and nothing more
  have hpad : (mg ++ c0 :: r0).all isBlank = false := not_blank_of_margin hmg hl0
  rw [hlead, dedentLines_margin mg _ hmg ?_ ⟨_, List.mem_cons_self, c0, r0, rfl, hb0⟩, List.map_cons, unmargin_append hpad,
    List.map_map]
  · exact congrArg _ (List.map_congr_left fun l _ => unmargin_unmargin_nil mg l)
  · intro y hy
    rcases List.mem_cons.mp hy with rfl | hy
    · exact .inr ⟨_, rfl, hl0⟩
    · exact (hbody y hy).imp_left (by rintro rfl; rfl)

/-- the variant of `prepLines` that pads the first line with `' ' * indent_adjust` (the code before 6117f16) instead of
    the leading whitespace of the least indented line -/
def prepLinesOld (docstr : Str) : List Str :=
  let ls := dedentLines (splitOn '\n' docstr)
  match ls with
  | l0 :: l1 :: rest =>
    if l0.length != 0 then
      match ((l0 :: l1 :: rest).filter (fun l => l.length > 0)).map getIndentation with
      | _ :: i1 :: is =>
        dedentLines ((List.replicate (is.foldl min i1) ' ' ++ l0) :: l1 :: rest)
      | _ => ls
    else ls
  | _ => ls

def tabDoc : Str := "Summary.\n\tExample:\n\t\t>>> f()\n\t".toList

/-- with the blank padding of `prepLinesOld` the conclusion of `prepLines_margin` fails for a tab margin: nothing is
    dedented -/
theorem prepLines_margin_old_padding_fails :
    prepLinesOld tabDoc = [" Summary.".toList, "\tExample:".toList, "\t\t>>> f()".toList, []] := by unfold tabDoc; decide_lits

/-- `prepLines` gives what the theorem says (non-vacuity: the hypotheses hold for this docstring with `mg = "\t"`) -/
theorem prepLines_margin_tab_witness :
    prepLines tabDoc = ["Summary.".toList, "Example:".toList, "\t>>> f()".toList, []] ∧
    (splitGoogle tabDoc).map (fun b => (b.key, b.offset)) = [("__DOC__".toList, 0), ("Example".toList, 1)] := by unfold tabDoc; decide_lits

example : prepLines tabDoc = ("Summary.".toList) :: ["\tExample:".toList, "\t\t>>> f()".toList, "\t".toList].map (unmargin "\t".toList) := by
  rw [show "Summary.".toList = 'S' :: "ummary.".toList by decide +kernel]
  refine prepLines_margin tabDoc 'S' "ummary.".toList _ "\t".toList (by unfold tabDoc; decide_lits) (by decide +kernel)
    (by decide_lits) ?_ ⟨"\tExample:".toList, by simp, 'E', "xample:".toList, by decide +kernel, by decide_lits⟩
  intro l hl
  simp only [List.mem_cons, List.not_mem_nil, or_false] at hl
  rcases hl with rfl | rfl | rfl
  · right; exact ⟨"Example:".toList, by decide_lits, by decide_lits⟩
  · right; exact ⟨"\t>>> f()".toList, by decide_lits, by decide_lits⟩
  · left; decide_lits

end Xdoc.Google
