import XdocModel.Parser
import XdocModel.CoreExamples
import XdocModel.Lemmas.Parser
/-!
# C14 — Malformed docstrings are contained: bad syntax never crashes collection

Theorems about the models `Parser.parse` (every failure of a phase is a value) and
`CoreExamples.docExamples` / `moduleExamples` (the downgrade to a warning, the per-docstring loop).
What CPython itself may raise for input outside the mini-lexer is not modelled: the correspondence
suite compares the outcome class of the real functions on grammar-fuzzed text.
-/
namespace Xdoc.C14
open Xdoc Py Parser CoreExamples

/-- ★ `parse` is a total function (accepted by Lean without `partial`; every loop of the code is a
    structural recursion or has explicit fuel): on every input it answers, with parts or with
    exactly one (fail point, error) pair -/
theorem parse_total (docstr : Str) (facts : List ChunkFacts) :
    (∃ ps, parse docstr facts = .ok ps) ∨ (∃ fp e, parse docstr facts = .error (fp, e)) := by
  cases h : parse docstr facts with
  | ok ps => exact Or.inl ⟨ps, rfl⟩
  | error x => obtain ⟨fp, e⟩ := x; exact Or.inr ⟨fp, e, rfl⟩

/-- what `DoctestParser.parse` can do, as seen by a caller -/
inductive ParseOutcome where
  | parts (ps : List Piece)
  | raised (e : PyExc)

/-- `DoctestParser.parse` with its `except Exception` wrapper -/
def parseWrapped (facts : Str → List ChunkFacts) (docstr : Str) : ParseOutcome :=
  match parseDocOf facts docstr with
  | .ok ps => .parts ps
  | .error e => .raised e

/-- ★ every failure of any of the three phases leaves `parse` as `DoctestParseError` carrying the
    fail point and the original error — never as another exception class -/
theorem parse_error_is_ParseError (facts : Str → List ChunkFacts) (docstr : Str) :
    (∃ ps, parseWrapped facts docstr = .parts ps ∧ parse docstr (facts docstr) = .ok ps) ∨
    (∃ fp e, parseWrapped facts docstr = .raised (.parseError fp e) ∧
        parse docstr (facts docstr) = .error (fp, e)) := by
  unfold parseWrapped parseDocOf
  cases h : parse docstr (facts docstr) with
  | ok ps => exact Or.inl ⟨ps, rfl, rfl⟩
  | error x => obtain ⟨fp, e⟩ := x; exact Or.inr ⟨fp, e, rfl, rfl⟩

theorem parseDocOf_not_other (facts : Str → List ChunkFacts) (docstr : Str) (e : PyExc)
    (h : parseDocOf facts docstr = .error e) : e.isOther = false := by
  unfold parseDocOf at h
  split at h
  · simp at h
  · simp only [Except.error.injEq] at h; subst h; rfl

/-- ★ the fail point names the phase: a label error means the labeller failed, and so on -/
theorem failpoint_is_phase (docstr : Str) (facts : List ChunkFacts) (fp : FailPoint) (e : ParseError)
    (h : parse docstr facts = .error (fp, e)) :
    (fp = .label ∧ labelLines (prepareLines docstr) = .error e) ∨
    (fp = .group ∧ ∃ labeled, labelLines (prepareLines docstr) = .ok labeled ∧ groupLines labeled = .error e) ∨
    (fp = .package ∧ ∃ chunks, chunksOf docstr = .ok chunks ∧ packageGroups chunks facts 0 = .error e) :=
  parse_error h

/-- ★ the errors the labeller can raise: bad indentation inside a statement (SyntaxError), an
    unexpected prefix (AssertionError), the text ends inside a statement (IncompleteParseError) -/
theorem label_error_classes (ls : List Str) (e : ParseError) (h : labelLines ls = .error e) :
    e = .syntax ∨ e = .assertion ∨ e = .incomplete := by
  rcases labelLines_error h with rfl | ⟨st, l, _, hs⟩
  · exact .inr (.inr rfl)
  · exact (labelStep_error hs).imp_right .inl

/-- ★ the only error the grouping phase can raise is the `assert prev_source is not None` -/
theorem group_error_classes (labeled : List LLine) (e : ParseError) (h : groupLines labeled = .error e) :
    e = .assertion :=
  groupLines_error h

/-- the environment in which `parse_docstr_examples` runs when the parser is the model parser and
    the google splitter raises nothing but `MalformedDocstr` -/
def Contained (env : Env) : Prop :=
  (∀ d e, env.parseDoc d = .error e → e.isOther = false) ∧
  (∀ d e, env.googleBlocks d = .error e → e.isOther = false)

theorem googleLoop_contained {env : Env} (hc : Contained env) (name : Str) (bs : List (Str × Str)) (n : Nat)
    (e : PyExc) (h : (googleLoop env name bs n).2 = some e) : e.isOther = false := by
  induction bs generalizing n with
  | nil => cases h
  | cons b bs ih =>
    obtain ⟨tag, body⟩ := b
    unfold googleLoop at h
    split at h
    · cases h; exact hc.1 _ _ ‹_›
    · exact ih (n + 1) h

/-- the generators only pass on what `env.parseDoc` or `env.googleBlocks` raised: one case per style,
    `auto` being `google` if that yields anything and `freeform` otherwise -/
theorem gen_contained {env : Env} (hc : Contained env) (style : Style) (name doc : Str) (e : PyExc) :
    (genOf env style name doc).2 = some e → e.isOther = false := by
  have hfree : ∀ e, (freeform env name doc).2 = some e → e.isOther = false := by
    intro e h
    unfold freeform at h
    split at h
    · cases h; exact hc.1 _ _ ‹_›
    · split at h <;> cases h
  have hgoogle : ∀ e, (google env name doc).2 = some e → e.isOther = false := by
    intro e h
    unfold google at h
    split at h
    · cases h; exact hc.2 _ _ ‹_›
    · exact googleLoop_contained hc name _ 0 e h
  cases style with
  | freeform => exact hfree e
  | google => exact hgoogle e
  | auto =>
    intro h
    simp only [genOf, auto] at h
    split at h
    · rename_i hg
      exact hgoogle e (by rw [hg]; exact h)
    · exact hfree e h

/-- ★ containment: whatever the docstring and the style, no exception leaves
    `parse_docstr_examples` — a parse error or a malformed google docstring is downgraded to a
    warning -/
theorem docExamples_never_raises {env : Env} (hc : Contained env) (style : Style) (name doc : Str) :
    (docExamples env style name doc).escaped = none := by
  unfold docExamples
  dsimp only
  split
  · rfl
  · rw [gen_contained hc style name doc _ ‹_›]; rfl

/-- ★ a warning is emitted exactly when the generator ended with an exception -/
theorem warned_iff_error (env : Env) (style : Style) (name doc : Str) :
    (docExamples env style name doc).warned = true ↔ ∃ e, (genOf env style name doc).2 = some e := by
  unfold docExamples
  dsimp only
  split
  · rename_i h; simp [h]
  · rename_i e h; simp [h]

theorem examples_or_warning_of_gen {env : Env} (hc : Contained env) {style : Style} {name doc : Str} {e : PyExc}
    (hg : genOf env style name doc = ([], some e)) :
    (docExamples env style name doc).examples = [] ∧
    (docExamples env style name doc).warned = true ∧
    (docExamples env style name doc).escaped = none :=
  ⟨by simp [docExamples, hg], by simp [docExamples, hg], docExamples_never_raises hc _ _ _⟩

/-- ★ freeform: a docstring whose text does not parse contributes no example and one warning -/
theorem examples_or_warning_freeform {env : Env} (hc : Contained env) (name doc : Str) (e : PyExc)
    (h : env.parseDoc doc = .error e) :
    (docExamples env .freeform name doc).examples = [] ∧
    (docExamples env .freeform name doc).warned = true ∧
    (docExamples env .freeform name doc).escaped = none :=
  examples_or_warning_of_gen hc (e := e) (by simp [genOf, freeform, h])

/-- ★ google: if the FIRST example block does not parse (or the splitter rejects the docstring)
    the docstring contributes no example and one warning -/
theorem examples_or_warning_google {env : Env} (hc : Contained env) (name doc : Str) :
    (∃ e, env.googleBlocks doc = .error e) ∨
    (∃ bs tag body rest e, env.googleBlocks doc = .ok bs ∧
        bs.filter (fun b => isExampleTag b.1) = (tag, body) :: rest ∧ env.parseDoc body = .error e) →
    (docExamples env .google name doc).examples = [] ∧
    (docExamples env .google name doc).warned = true ∧
    (docExamples env .google name doc).escaped = none := by
  rintro (⟨e, he⟩ | ⟨bs, tag, body, rest, e, hb, hf, hp⟩)
  · exact examples_or_warning_of_gen hc (e := e) (by simp [genOf, google, he])
  · exact examples_or_warning_of_gen hc (e := e) (by simp [genOf, google, hb, hf, googleLoop, hp])

/-- google, general form: the blocks before the first one that fails are kept (the code yields them
    before it reaches the bad block), every later block is lost, one warning -/
theorem googleLoop_prefix (env : Env) (name : Str) (good : List (Str × Str)) (tag body : Str)
    (rest : List (Str × Str)) (n : Nat) (e : PyExc)
    (hgood : ∀ b ∈ good, ∃ ps, env.parseDoc b.2 = .ok ps) (hbad : env.parseDoc body = .error e) :
    (googleLoop env name (good ++ (tag, body) :: rest) n).2 = some e ∧
    (googleLoop env name (good ++ (tag, body) :: rest) n).1.length = good.length := by
  induction good generalizing n with
  | nil => simp [googleLoop, hbad]
  | cons g gs ih =>
    obtain ⟨t, b⟩ := g
    obtain ⟨ps, hps⟩ := hgood (t, b) (by simp)
    have := ih (n + 1) (fun x hx => hgood x (by simp [hx]))
    simp only [List.cons_append, googleLoop, hps]
    exact ⟨this.1, by simp [this.2]⟩

/-- ★ auto: if neither reading of the docstring parses (the google attempt yields nothing and the
    freeform parse of the whole text fails) there is no example and one warning -/
theorem examples_or_warning_auto {env : Env} (hc : Contained env) (name doc : Str) (e : PyExc)
    (hg : (google env name doc).1 = []) (h : env.parseDoc doc = .error e) :
    (docExamples env .auto name doc).examples = [] ∧
    (docExamples env .auto name doc).warned = true ∧
    (docExamples env .auto name doc).escaped = none := by
  refine examples_or_warning_of_gen hc (e := e) ?_
  show auto env name doc = _
  unfold auto
  split
  · rename_i hx; rw [hx] at hg; cases hg
  · simp [freeform, h]

/-- ★ the per-docstring loop is independent: when nothing escapes, a module's examples are the
    concatenation of what each docstring contributes on its own -/
theorem module_is_concat {env : Env} (hc : Contained env) (style : Style) (docs : List (Str × Str)) :
    (moduleExamples env style docs).examples =
        docs.flatMap (fun d => (docExamples env style d.1 d.2).examples) ∧
    (moduleExamples env style docs).escaped = none := by
  induction docs with
  | nil => simp [moduleExamples]
  | cons d ds ih =>
    obtain ⟨name, doc⟩ := d
    have hn := docExamples_never_raises hc style name doc
    simp only [moduleExamples, hn, List.flatMap_cons]
    exact ⟨by rw [ih.1], ih.2⟩

/-- ★ the other docstrings of the module are unaffected: replacing one docstring by ANY other text
    (in particular a malformed one) changes nothing but that docstring's own contribution; the
    examples collected before and after it are the same lists -/
theorem siblings_unaffected {env : Env} (hc : Contained env) (style : Style)
    (pre post : List (Str × Str)) (name doc doc' : Str) :
    ∃ own own',
      (moduleExamples env style (pre ++ (name, doc) :: post)).examples =
        (moduleExamples env style pre).examples ++ own ++ (moduleExamples env style post).examples ∧
      (moduleExamples env style (pre ++ (name, doc') :: post)).examples =
        (moduleExamples env style pre).examples ++ own' ++ (moduleExamples env style post).examples ∧
      own = (docExamples env style name doc).examples ∧ own' = (docExamples env style name doc').examples := by
  refine ⟨_, _, ?_, ?_, rfl, rfl⟩ <;>
    simp [(module_is_concat hc style _).1, List.flatMap_append]

/-- ★ with the model's `parse` (any CPython facts) as the parser and
    a splitter that raises only `MalformedDocstr`, a docstring whose text the parser rejects yields,
    in freeform style, no example, a warning and no exception; and the module loop goes on -/
theorem examples_or_warning (facts : Str → List ChunkFacts)
    (blocks : Str → Except PyExc (List (Str × Str)))
    (hb : ∀ d e, blocks d = .error e → e = .malformed)
    (pre post : List (Str × Str)) (name doc : Str) (fp : FailPoint) (err : ParseError)
    (hbad : parse doc (facts doc) = .error (fp, err)) :
    let env : Env := { parseDoc := parseDocOf facts, googleBlocks := blocks }
    (docExamples env .freeform name doc).examples = [] ∧
    (docExamples env .freeform name doc).warned = true ∧
    (∀ style, (docExamples env style name doc).escaped = none) ∧
    (moduleExamples env .freeform (pre ++ (name, doc) :: post)).examples =
      (moduleExamples env .freeform pre).examples ++ (moduleExamples env .freeform post).examples ∧
    (∀ style, (moduleExamples env style (pre ++ (name, doc) :: post)).escaped = none) := by
  intro env
  have hc : Contained env := by
    -- reduce the projection first: unifying `env.parseDoc d` with `parseDocOf facts d` unfolds `parse`
    refine ⟨fun d e h => ?_, fun d e h => ?_⟩
    · dsimp only [env] at h; exact parseDocOf_not_other facts d e h
    · rw [hb d e h]; rfl
  have hp : env.parseDoc doc = .error (.parseError fp err) := by
    dsimp only [env]
    unfold parseDocOf; rw [hbad]
  have h1 := examples_or_warning_freeform hc name doc _ hp
  refine ⟨h1.1, h1.2.1, fun s => docExamples_never_raises hc s name doc, ?_, fun s => (module_is_concat hc s _).2⟩
  obtain ⟨own, _, h2, _, rfl, _⟩ := siblings_unaffected hc .freeform pre post name doc doc
  rw [h2, h1.1, List.append_nil]

def errOf {α : Type} : Except (FailPoint × ParseError) α → Option (FailPoint × ParseError)
  | .ok _ => none
  | .error e => some e

/-- a failing docstring exists for every phase that can fail on text alone -/
example : errOf (parse ">>> x = (\n".toList []) = some (.label, .incomplete) := by decide_lits
example : errOf (parse ">>> x = (1,\n  2)\n".toList []) = some (.label, .syntax) := by decide_lits
example : errOf (parse ">>> x = 1\n".toList [.syntaxError]) = some (.package, .syntax) := by decide_lits
example : errOf (parse ">>> 1 # xdoctest: +SKIP(\n".toList [.parsed [0] true]) = some (.package, .directive) := by
  decide_lits
/-- and a docstring on which every phase succeeds -/
example : (match parse "text\n>>> 1\n1\n".toList [.parsed [0] true] with | .ok ps => ps.length | .error _ => 0) = 2 := by
  decide +kernel

def exEnv : Env :=
  { parseDoc := parseDocOf (fun _ => []), googleBlocks := fun _ => .error .malformed }

example : Contained exEnv :=
  ⟨fun d e h => by dsimp only [exEnv] at h; exact parseDocOf_not_other _ d e h, fun d e h => by cases h; rfl⟩
example : (docExamples exEnv .freeform "f".toList ">>> x = (".toList).warned = true := by decide_lits
example : (docExamples exEnv .auto "f".toList ">>> x = (".toList).examples.length = 0 := by decide_lits
example : (moduleExamples exEnv .freeform [("f".toList, ">>> x = (".toList), ("g".toList, "no test".toList)]).warnings = 1 := by
  decide_lits

/-- K-C14-a: google style keeps the examples of the blocks before the malformed one -/
def exEnvGoogle : Env :=
  { parseDoc := parseDocOf (fun t => if t == ">>> print(1)\n1\n".toList then [.parsed [0] true] else []),
    googleBlocks := fun _ => .ok [("Example".toList, ">>> print(1)\n1\n".toList), ("Example".toList, ">>> x = (\n".toList)] }

theorem witness_K_C14_a :
    (docExamples exEnvGoogle .google "f".toList []).examples.length = 1 ∧
    (docExamples exEnvGoogle .google "f".toList []).warned = true ∧
    (docExamples exEnvGoogle .auto "f".toList []).examples.length = 1 := by
  unfold exEnvGoogle; decide_lits

end Xdoc.C14
