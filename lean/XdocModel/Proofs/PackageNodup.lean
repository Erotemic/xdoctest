import XdocModel.Lemmas.Package
/-!
# `package_modpaths` yields no path twice (C07 "each exactly once", C10 "every collected doctest runs once")

`Proofs/C07.lean` says WHICH paths are yielded; here: each ONCE, for every tree whose listings do not repeat a name
and every setting of the options. The walk is regrouped entry by entry (`walkAll_file`, `walkAll_dir`: the same
paths up to order); then one induction over the tree with one shape lemma: what is yielded below `path` is
`path ++ n :: r` for an entry name `n`, and never `path ++ [__init__.py]`. `walkVisit` is a variant of the walk in which
a visited package directory yields its own `__init__.py`: it yields the root's twice (`visit_variant_yields_root_twice`).
-/
namespace Xdoc.Static
open Xdoc Py

def entryNames : Fs → List Str
  | .nil => []
  | .file n r => n :: entryNames r
  | .dir n _ r => n :: entryNames r

/-- no directory lists a name twice (what a file system guarantees) -/
def NamesDistinct : Fs → Prop
  | .nil => True
  | .file n r => n ∉ entryNames r ∧ NamesDistinct r
  | .dir n sub r => n ∉ entryNames r ∧ NamesDistinct sub ∧ NamesDistinct r

/-- below `path` comes an entry name, and a path that ends there is not `__init__.py` (a file of that name is no module):
    what tells the paths of two entries apart, and a package's `__init__.py` from what is yielded inside it -/
theorem mem_walkAll_shape {cfg : WalkCfg} {q : List Str} {l : Fs} : ∀ {path}, q ∈ walkAll cfg path l →
    ∃ n ∈ entryNames l, ∃ r, q = path ++ n :: r ∧ (r = [] → n ≠ initPy) := by
  induction l with
  | nil => intro _ h; rw [walkAll_nil] at h; cases h
  | file n rest ih =>
    intro path h
    rw [walkAll_file] at h
    rcases List.mem_append.mp h with h | h
    · split at h
      · rename_i hc
        simp only [Bool.and_eq_true, bne_iff_ne, ne_eq] at hc
        exact ⟨n, List.mem_cons_self, [], List.mem_singleton.mp h, fun _ => hc.2.2⟩
      · cases h
    · obtain ⟨m, hm, r, hq⟩ := ih h
      exact ⟨m, List.mem_cons_of_mem _ hm, r, hq⟩
  | dir n sub rest ihs ihr =>
    intro path h
    rw [(walkAll_dir ..).mem_iff, List.mem_append, List.mem_append] at h
    rcases h with (h | h) | h
    · exact ⟨n, List.mem_cons_self, [initPy], by simpa using (List.mem_ite_nil_right.mp h).2, fun e => nomatch e⟩
    · obtain ⟨m, _, r, hq, _⟩ := ihs ((List.mem_ite_nil_right.mp h).2)
      exact ⟨n, List.mem_cons_self, m :: r, by simpa using hq, fun e => nomatch e⟩
    · obtain ⟨m, hm, r, hq⟩ := ihr h
      exact ⟨m, List.mem_cons_of_mem _ hm, r, hq⟩

theorem walkAll_nodup (cfg : WalkCfg) {l : Fs} (h : NamesDistinct l) : ∀ path, (walkAll cfg path l).Nodup := by
  induction l with
  | nil => intro _; rw [walkAll_nil]; exact List.nodup_nil
  | file n rest ih =>
    intro path
    rw [walkAll_file, List.nodup_append]
    refine ⟨by split <;> simp, ih h.2 path, fun a ha b hb e => ?_⟩
    -- the file's own path against the paths of the other entries: another name follows `path`
    obtain ⟨m, hm, r, hq, _⟩ := mem_walkAll_shape hb
    rw [← e, List.mem_singleton.mp ((List.mem_ite_nil_right.mp ha).2)] at hq
    exact h.1 ((List.cons.inj (List.append_cancel_left hq)).1 ▸ hm)
  | dir n sub rest ihs ihr =>
    intro path
    rw [(walkAll_dir ..).nodup_iff, List.nodup_append, List.nodup_append]
    refine ⟨⟨by split <;> simp, ?_, fun a ha b hb e => ?_⟩, ihr h.2.2 path, fun a ha b hb e => ?_⟩
    · split
      · exact ihs h.2.1 _
      · exact List.nodup_nil
    · -- the directory's `__init__.py` against what is yielded inside it: there `__init__.py` is never a module
      obtain ⟨m, _, r, hq, hr⟩ := mem_walkAll_shape ((List.mem_ite_nil_right.mp hb).2)
      rw [← e, List.mem_singleton.mp ((List.mem_ite_nil_right.mp ha).2), List.append_assoc] at hq
      obtain ⟨hm, rfl⟩ := List.cons.inj (List.cons.inj (List.append_cancel_left hq)).2
      exact hr rfl hm.symm
    · -- the directory's paths against those of the other entries: another name follows `path`
      obtain ⟨m, hm, r, hq, _⟩ := mem_walkAll_shape hb
      have hn : ∃ r', a = path ++ n :: r' := by
        rcases List.mem_append.mp ha with ha | ha
        · exact ⟨[initPy], by simpa using (List.mem_ite_nil_right.mp ha).2⟩
        · obtain ⟨x, _, r', hx, _⟩ := mem_walkAll_shape ((List.mem_ite_nil_right.mp ha).2)
          exact ⟨x :: r', by simpa using hx⟩
      obtain ⟨r', hr'⟩ := hn
      rw [← e, hr'] at hq
      exact h.1 ((List.cons.inj (List.append_cancel_left hq)).1 ▸ hm)

/-- ★ `packageModpaths_nodup`: no module of a package tree is yielded twice. `package_modpaths(pkgpath, with_pkg=…, with_mod=…)` — what
    `core.package_calldefs` iterates over, so what the native runner and the pytest plugin collect from — lists every path at most once,
    for every directory tree whose listings do not repeat a name, every depth, every choice of the options. -/
theorem packageModpaths_nodup (cfg : WalkCfg) (check : Bool) (root : Root)
    (h : match root with | .file => True | .dir l => NamesDistinct l) :
    (packageModpaths cfg check root).Nodup := by
  cases root with
  | file => simp [packageModpaths]
  | dir l =>
    -- with `recursive` off the walk is cut short: a sublist of the full one
    have hsub : (yieldHere cfg [] l ++ if cfg.recursive then walkSubs cfg [] l else []).Sublist (walkAll cfg [] l) := by
      split
      · exact List.Sublist.refl _
      · simp [walkAll]
    simp only [packageModpaths]
    rw [List.nodup_append]
    refine ⟨by split <;> simp, ?_, fun a ha b hb e => ?_⟩
    · split
      · exact (walkAll_nodup cfg h []).sublist hsub
      · exact List.nodup_nil
    -- the root's `__init__.py` against the walk: there `__init__.py` is never a module
    obtain ⟨m, _, r, hq, hr⟩ := mem_walkAll_shape (hsub.subset ((List.mem_ite_nil_right.mp hb).2))
    rw [← e, List.mem_singleton.mp ((List.mem_ite_nil_right.mp ha).2)] at hq
    obtain ⟨hm, rfl⟩ := List.cons.inj hq
    exact hr rfl hm.symm

def demoTree : Fs :=
  .file "__init__.py".toList (.file "m1.py".toList (.file "data.txt".toList
    (.dir "sub".toList (.file "__init__.py".toList (.file "m2.py".toList .nil))
      (.dir "notpkg".toList (.file "x.py".toList .nil) .nil))))

example : NamesDistinct demoTree := by
  simp only [demoTree, NamesDistinct, entryNames]
  decide_lits

example : packageModpaths { withPkg := true } true (.dir demoTree) =
    [["__init__.py".toList], ["m1.py".toList], ["sub".toList, "__init__.py".toList], ["sub".toList, "m2.py".toList]] := by
  unfold demoTree; decide_lits

/-- a variant of the walk (seeded defect C10-4B): a package directory yields its own `__init__.py` when it is visited
    (instead of its parent yielding it), while the root's is still yielded in front of the walk -/
def walkVisit (path : List Str) : Fs → List (List Str)
  | .nil => []
  | .file _ rest => walkVisit path rest
  | .dir n sub rest =>
    (if hasEntry initPy sub then
      [path ++ [n, initPy]] ++ yieldFiles {} (path ++ [n]) sub ++ walkVisit (path ++ [n]) sub else [])
      ++ walkVisit path rest

def packageModpathsVisit (l : Fs) : List (List Str) :=
  (if hasEntry initPy l then [[initPy]] else []) ++
  (if hasEntry initPy l then [[initPy]] ++ yieldFiles {} [] l ++ walkVisit [] l else [])

theorem visit_variant_yields_root_twice :
    ¬ (packageModpathsVisit demoTree).Nodup ∧ (packageModpathsVisit demoTree).count ["__init__.py".toList] = 2 := by
  unfold demoTree; decide_lits

end Xdoc.Static
