import XdocModel.Proofs.C16
/-!
# C16 — the analysis switch (`core.parse_calldefs`)

Model of the decision `parse_calldefs(module_identifier, analysis)` makes between the two collectors
(the deprecated `sys.argv` overrides are not modelled), and the statement of the property at the level
the user chooses a mode: for a pure-Python module of the fragment that imports, every accepted value of
`analysis` yields the same identifiers with the same docstrings (`mode_never_changes_tests`).
-/
namespace Xdoc.Switch
open Xdoc Py Static Xdoc.Dynamic

inductive Analysis where
  | static | dynamic | auto
  /-- any other string: `raise KeyError(analysis)` -/
  | other
  deriving DecidableEq, Repr

inductive Outcome (α : Type) where
  | calldefs (x : α)
  /-- the import failed with ImportError / RuntimeError: a warning, `calldefs = None` -/
  | noCalldefs
  /-- `Exception('Static analysis required, but … requires dynamic analysis')`, `KeyError`, or the
      re-raised error of a failed import -/
  | raised
  deriving DecidableEq, Repr

inductive DynResult (α : Type) where
  | ok (x : α)
  | importError
  | otherError
  deriving DecidableEq, Repr

/-- `do_dynamic`; `none` = an exception before any collector runs -/
def doDynamic (a : Analysis) (needDynamic : Bool) : Option Bool :=
  match a with
  | .static => if needDynamic then none else some false
  | .dynamic => some true
  | .auto => some needDynamic
  | .other => none

/-- `parse_calldefs`; `needDynamic` = live module, compiled extension suffix or `.ipynb` -/
def parseCalldefs {α : Type} (a : Analysis) (needDynamic : Bool) (stat : α) (dyn : DynResult α) : Outcome α :=
  match doDynamic a needDynamic with
  | none => .raised
  | some false => .calldefs stat
  | some true =>
    match dyn with
    | .ok x => .calldefs x
    | .importError => .noCalldefs
    | .otherError => .raised

/-- ★ on a path to a `.py` file `auto` IS `static`, whatever the import would do -/
theorem auto_is_static_for_py {α : Type} (stat : α) (dyn : DynResult α) :
    parseCalldefs .auto false stat dyn = parseCalldefs .static false stat dyn := rfl

/-- ★ `static` never imports: its outcome does not depend on the dynamic collector -/
theorem static_ignores_import {α : Type} (nd : Bool) (stat : α) (d1 d2 : DynResult α) :
    parseCalldefs .static nd stat d1 = parseCalldefs .static nd stat d2 := by
  cases nd <;> rfl

/-- ★ a module that needs the import is never silently analysed statically -/
theorem need_dynamic_never_static {α : Type} (a : Analysis) (stat : α) (dyn : DynResult α) (x : α)
    (h : parseCalldefs a true stat dyn = .calldefs x) : dyn = .ok x := by
  cases a <;> cases dyn <;> simp_all [parseCalldefs, doDynamic]

/-- ★ any other value of `analysis` raises (`KeyError`) -/
theorem unknown_mode_raises {α : Type} (nd : Bool) (stat : α) (dyn : DynResult α) :
    parseCalldefs .other nd stat dyn = .raised := rfl

def outcomePairs : Outcome (List (Str × Option Str)) → Option (List (Str × Option Str))
  | .calldefs x => some x
  | _ => none

/-- ★ choosing the analysis mode never changes which tests exist: for a module of the fragment
    (`C16.InFragment`) given by the path of a `.py` file whose import succeeds, the three accepted
    modes return the same identifiers with the same docstrings, in the same order -/
theorem mode_never_changes_tests (loc : Locator) (modname other : Str) (m : Module)
    (h : C16.InFragment modname other m) (a : Analysis) (ha : a ≠ .other) :
    outcomePairs (parseCalldefs a false (Dynamic.pairs (visitModule loc m))
        (.ok (dynamicCollect (execModule modname other m)))) =
      some (Dynamic.pairs (visitModule loc m)) := by
  have e := C16.static_eq_dynamic loc modname other m h
  cases a <;> simp_all [parseCalldefs, doDynamic, outcomePairs]

/-- the hypothesis "the import succeeds" is needed: when it fails `dynamic` has no calldefs at all
    while `static` and `auto` still have them -/
theorem import_failure_separates_modes :
    parseCalldefs .dynamic false [("f".toList, some "d".toList)] .importError = .noCalldefs ∧
    parseCalldefs .auto false [("f".toList, some "d".toList)] .importError
      = .calldefs [("f".toList, some "d".toList)] := by decide +kernel

end Xdoc.Switch
