import XdocModel.Lemmas.Static
import XdocModel.Lemmas.Package
import XdocModel.Lemmas.Google
import XdocModel.Lemmas.CoreCollect
/-!
# C07 — collection is exact

Theorems about the models of `TopLevelVisitor` (`Static.visit`), `package_modpaths`,
`split_google_docblocks` and `parse_docstr_examples`, for ALL mini-ASTs, directory trees,
docstrings and parser outputs.
-/
namespace Xdoc.C07
open Xdoc Py Static Google Core

/-- ★ `collect_eq_fold`: what the visitor collects is the inventory (`topLevel`) inserted entry by entry into the ordered map
    that starts with the module-docstring entry — also for repeated names: a repeated callname keeps its first
    position and its last value -/
theorem collect_eq_fold (loc : Locator) (m : Module) :
    visitModule loc m = insertAll (topLevel loc m.body) (moduleEntry loc m) := by
  rw [visitModule, visit_eq_fold]; rfl

/-- ★ `collect_eq_inventory`: collection is exact. For every module whose callnames are pairwise distinct, the collected
    map is the inventory of the property sentence: the module docstring (if non-empty), every
    function / async function, every class followed by its methods (plain, static, class, property
    getter; decorated or not), reached through any nesting of non-definition compound statements —
    each exactly once, in source order, under `func` / `Class` / `Class.method`. -/
theorem collect_eq_inventory (loc : Locator) (m : Module)
    (h : (keys (inventory loc m)).Nodup) : visitModule loc m = inventory loc m := by
  rw [collect_eq_fold]
  exact insertAll_of_nodup (by simpa [inventory] using h)

/-- ★ nothing else: the result does not depend on function bodies (nested functions and classes),
    on classes nested in classes, on property setters/deleters, or on code under the main guard
    (either spelling; its `else` branch is ordinary module-level code) —
    replacing all of them by inert statements leaves the collection unchanged. -/
theorem nothing_else (loc : Locator) (m : Module) :
    visitModule loc m = visitModule loc { m with body := prune m.body false } := by
  rw [collect_eq_fold, collect_eq_fold, topLevel_prune]; rfl

theorem nothing_else_function_body (loc : Locator) (a : Bool) (n : Str) (ds : List Deco) (doc : Option Doc)
    (b b' next : Tree) (st : St) :
    visit loc (.func a n ds doc b next) st = visit loc (.func a n ds doc b' next) st := rfl

theorem nothing_else_nested_class (loc : Locator) (n c : Str) (ds : List Deco) (doc : Option Doc)
    (b next : Tree) (cds : List CallDef) :
    visit loc (.cls n ds doc b next) { calldefs := cds, cur := some c } =
      visit loc next { calldefs := cds, cur := some c } := rfl

theorem nothing_else_setter (loc : Locator) (a : Bool) (n : Str) (ds : List Deco) (doc : Option Doc)
    (b next : Tree) (st : St) (h : skipDeco ds = true) :
    visit loc (.func a n ds doc b next) st = visit loc next st := by
  simp [visit, h]

theorem nothing_else_main_guard (loc : Locator) (t : Test) (r1 r2 : Bool) (b e next : Tree) (st : St)
    (h : isMainGuard t = true) :
    visit loc (.ifs t r1 r2 b e next) st = visit loc next (visit loc e st) := by
  simp [visit, h]

theorem mem_keys_collect (loc : Locator) (m : Module) (k : Str) :
    k ∈ keys (visitModule loc m) ↔ k ∈ keys (inventory loc m) := by
  rw [collect_eq_fold, mem_keys_insertAll]; simp [inventory]

/-- ★ callnames are unique within a module (unconditionally: the map is keyed by callname) -/
theorem identifiers_nodup (loc : Locator) (m : Module) : (keys (visitModule loc m)).Nodup := by
  rw [collect_eq_fold]
  exact nodup_keys_insertAll (nodup_keys_moduleEntry loc m)

example : skipDeco [.name "property".toList] = false := by decide +kernel
example : skipDeco [.attr "setter".toList] = true := by decide +kernel
example : skipDeco [.other, .attr "deleter".toList] = true := by decide +kernel
example : isMainGuard { isCompare := true, op0Eq := true, leftId := some "__name__".toList, comp0 := some "__main__".toList } = true := by decide +kernel
/-- `'__main__' == __name__` is recognised as well (29b8101) -/
example : isMainGuard { isCompare := true, op0Eq := true, leftId := none, comp0 := none, leftStr := some "__main__".toList, comp0Id := some "__name__".toList } = true := by decide +kernel
example : isMainGuard { isCompare := true, op0Eq := false, leftId := some "__name__".toList, comp0 := some "__main__".toList } = false := by
  decide +kernel

/-- non-vacuity of `collect_eq_inventory` : a module with a docstring, a decorated async function
    with a nested function, a class with a method, a property with setter, a nested class, and a
    main guard whose `else` branch holds a definition. -/
def demoModule : Module :=
  { doc := some ⟨"m".toList, 1, 1⟩,
    body :=
      .func true "f".toList [.other] (some ⟨"d".toList, 3, 3⟩) (.func false "inner".toList [] none .done .done) <|
      .cls "C".toList [] none
        (.func false "m".toList [] none .done <|
         .func false "p".toList [.name "property".toList] (some ⟨"g".toList, 9, 9⟩) .done <|
         .func false "p".toList [.attr "setter".toList] none .done <|
         .cls "N".toList [] none (.func false "x".toList [] none .done .done) .done) <|
      .ifs { isCompare := true, op0Eq := true, leftId := some "__name__".toList, comp0 := some "__main__".toList } false false
        (.func false "hidden".toList [] none .done .done)
        (.func false "onimport".toList [] none .done .done) <|
      .comp true (.func false "g".toList [] none .done .done) .done }

example : (keys (inventory (fun _ => none) demoModule)).Nodup := by decide +kernel
example : keys (visitModule (fun _ => none) demoModule) =
    ["__doc__", "f", "C", "C.m", "C.p", "onimport", "g"].map String.toList := by decide +kernel

/-- ★ `package_walk_spec`: the package walk with default flags (`with_mod`, no `with_pkg`, recursive, `check`): a path is
    yielded iff the root directory has an `__init__.py` entry and the path is `p ++ [f]` where
    following `p` from the root enters only directories that have an `__init__.py` entry, `f` is a
    file entry of the directory reached, its extension (`os.path.splitext`) is a valid one, and
    `f` is not `__init__.py`. -/
theorem package_walk_spec (exts : List Str) (l : Fs) (q : List Str) :
    q ∈ packageModpaths { validExts := exts } true (.dir l) ↔
      hasEntry initPy l = true ∧
      ∃ p l' f, PkgChain p l l' ∧ q = p ++ [f] ∧ IsFileOf f l' ∧
        exts.contains (splitExt f) = true ∧ f ≠ initPy := by
  rw [mem_packageModpaths rfl]
  simp only [mem_walkAll, mem_yieldHere, mem_yieldFiles, Bool.false_eq_true, false_and, false_or, or_false, true_and]
  exact and_congr_right fun _ =>
    ⟨fun ⟨p, l', hc, f, h⟩ => ⟨p, l', f, hc, h⟩, fun ⟨p, l', f, hc, h⟩ => ⟨p, l', hc, f, h⟩⟩

/-- ★ the `__init__.py` files (`with_pkg`, as `package_calldefs` calls it; here without the module
    files): yielded for exactly the directories reachable through package directories -/
theorem package_walk_inits (l : Fs) (q : List Str) :
    q ∈ packageModpaths { withPkg := true, withMod := false } true (.dir l) ↔
      hasEntry initPy l = true ∧ ∃ p l', PkgChain p l l' ∧ q = p ++ [initPy] := by
  rw [mem_packageModpaths rfl]
  simp only [mem_walkAll, mem_yieldHere, mem_yieldInits, Bool.false_eq_true, false_and, false_or, true_and]
  refine and_congr_right fun _ => ⟨?_, ?_⟩
  · rintro (h | ⟨p, lm, hc, d, s, h1, h2, h3⟩)
    · exact ⟨[], l, rfl, h⟩
    · exact ⟨p ++ [d], s, pkgChain_snoc.mpr ⟨lm, hc, h2, h3⟩, by simpa using h1⟩
  · rintro ⟨p, l', hc, h1⟩
    rcases List.eq_nil_or_concat p with rfl | ⟨p0, d', rfl⟩
    · exact Or.inl h1
    · rw [List.concat_eq_append] at hc h1
      obtain ⟨lm, x, y, z⟩ := pkgChain_snoc.mp hc
      exact Or.inr ⟨p0, lm, x, d', l', by simpa using h1, y, z⟩

theorem package_walk_file (cfg : WalkCfg) (check : Bool) : packageModpaths cfg check .file = [[]] := rfl

/-- non-vacuity: `pkg/{__init__.py, a.py, notes.txt, sub/{__init__.py, b.py}, data/{c.py}}` -/
def demoFs : Fs :=
  .file initPy <| .file "a.py".toList <| .file "notes.txt".toList <|
  .dir "sub".toList (.file initPy <| .file "b.py".toList .nil) <|
  .dir "data".toList (.file "c.py".toList .nil) .nil

example : packageModpaths {} true (.dir demoFs) = [["a.py".toList], ["sub".toList, "b.py".toList]] := by
  decide +kernel
example : PkgChain ["sub".toList] demoFs (.file initPy <| .file "b.py".toList .nil) :=
  ⟨_, Or.inl ⟨rfl, rfl⟩, by unfold initPy; decide_lits, rfl⟩

/-- ★ `google_offsets`: blocks tile the docstring. Every block returned by `split_google_docblocks` is made from a
    non-empty run `g` of consecutive (dedented) docstring lines, its `offset` is the index of the
    first line of that run, and the runs of distinct blocks are disjoint and in order (offsets
    strictly increase). The number of lines is that of the raw docstring. -/
theorem google_offsets (docstr : Str) :
    (∀ b ∈ splitGoogle docstr, ∃ pre g post, prepLines docstr = pre ++ g ++ post ∧ g ≠ [] ∧
        b = blockOf g pre.length ∧ b.offset = pre.length) ∧
    ((splitGoogle docstr).map (·.offset)).Pairwise (· < ·) ∧
    (prepLines docstr).length = (splitOn '\n' docstr).length := by
  refine ⟨?_, mkBlocks_sorted 0 _ (groupsOf_ne_nil docstr), prepLines_length docstr⟩
  intro b hb
  obtain ⟨pre, g, post, h1, _, h3⟩ := exists_group_of_mem_mkBlocks hb
  refine ⟨pre.flatten, g, post.flatten, ?_, ?_, by simpa using h3, by rw [h3, blockOf_offset]; simp⟩
  · rw [← groupsOf_flatten, h1]; simp
  · exact groupsOf_ne_nil docstr g (by rw [h1]; simp)

/-- ★ a block whose key passes the `example_tags` test starts at a tag line -/
theorem example_block_starts_at_tag (docstr : Str) (b : Block) (hb : b ∈ splitGoogle docstr)
    (hk : isExampleKey b.key = true) :
    ∃ pre l0 val post, prepLines docstr = pre ++ (l0 :: val) ++ post ∧ b.offset = pre.length ∧
      isTagLine l0 = true ∧ (prepLines docstr)[b.offset]? = some l0 ∧
      b.key = aliasOf (rstripColon (strip l0)) ∧ b.text = joinWith ['\n'] (dedentLines val) := by
  obtain ⟨pre, g, post, h1, hne, h3, h4⟩ := (google_offsets docstr).1 b hb
  cases g with
  | nil => exact absurd rfl hne
  | cons l0 val =>
    by_cases ht : isTagLine l0 = true
    · rw [blockOf_tag val _ ht] at h3
      refine ⟨pre, l0, val, post, h1, h4, ht, ?_, by rw [h3], by rw [h3]⟩
      rw [h4, h1]; simp
    · rw [h3, blockOf_key_of_not_tag val _ ht] at hk
      exact absurd hk (by unfold docKey; decide_lits)

/-- ★ `one_example_per_block_in_order`: one doctest per Example/Doctest block, in order. The `i`-th example comes from the `i`-th
    block whose key starts with one of `example_tags`; it is numbered `i`, its source is the block
    text, and its line is `lineno + offset + 1` (the line after the tag line) -/
theorem one_example_per_block_in_order (docstr callname : Str) (lineno : Nat) :
    (googleAll docstr callname lineno).length = (exampleBlocks docstr).length ∧
    ∀ i, (googleAll docstr callname lineno)[i]? =
      ((exampleBlocks docstr)[i]?).map fun b =>
        ({ callname := callname, num := i, lineno := lineno + b.offset + 1, docsrc := b.text,
           blockType := some b.key } : Ex) := by
  refine ⟨enumFrom_length _ _ _, fun i => ?_⟩
  unfold googleAll
  rw [enumFrom_getElem?, Nat.zero_add]
  rfl

theorem google_all_when_parsable (docstr callname : Str) (lineno : Nat) (gOk : List Bool)
    (h : ∀ b ∈ gOk, b = true) :
    parseDocstrExamples .google docstr callname lineno gOk none = googleAll docstr callname lineno := by
  rw [parseDocstrExamples_google, googleYield, takeOk_all _ _ h]

/-- ★ `auto_is_google_or_freeform`: auto = google if it yields anything, else freeform (the rule of the code: the fallback
    depends on what the google pass YIELDED, not on whether blocks exist) -/
theorem auto_is_google_or_freeform (docstr callname : Str) (lineno : Nat) (gOk : List Bool)
    (pieces : Option (List FPiece)) :
    let g := parseDocstrExamples .google docstr callname lineno gOk pieces
    let f := parseDocstrExamples .freeform docstr callname lineno gOk pieces
    let a := parseDocstrExamples .auto docstr callname lineno gOk pieces
    (g ≠ [] → a = g) ∧ (g = [] → a = f) := by
  simp only [parseDocstrExamples_auto, parseDocstrExamples_google, parseDocstrExamples_freeform]
  exact ⟨fun h => if_neg h, fun h => if_pos h⟩

/-- ★ `freeform_at_most_one`: freeform yields at most one doctest per docstring, numbered 0 -/
theorem freeform_at_most_one (pieces : Option (List FPiece)) (docstr callname : Str) (lineno : Nat)
    (gOk : List Bool) :
    (parseDocstrExamples .freeform docstr callname lineno gOk pieces).length ≤ 1 ∧
    ∀ e ∈ parseDocstrExamples .freeform docstr callname lineno gOk pieces, e.num = 0 := by
  rw [parseDocstrExamples_freeform]
  rcases freeformYield_cases pieces callname lineno with h | ⟨e, h, he⟩
  · rw [h]; exact ⟨Nat.zero_le _, fun _ h => nomatch h⟩
  · rw [h]; exact ⟨Nat.le_refl _, fun _ h => List.mem_singleton.mp h ▸ he⟩

/-- ★ identifiers `callname:num` of the examples of one docstring are pairwise distinct -/
theorem example_nums_nodup (docstr callname : Str) (lineno : Nat) (style : Style) (gOk : List Bool)
    (pieces : Option (List FPiece)) :
    ((parseDocstrExamples style docstr callname lineno gOk pieces).map (·.num)).Nodup := by
  have hall : ((googleAll docstr callname lineno).map (·.num)).Nodup := by
    rw [googleAll, enumFrom_eq, List.map_map]
    exact (List.zipIdx_map_snd 0 _).symm ▸ List.nodup_range'
  have hg : ((googleYield docstr callname lineno gOk).1.map (·.num)).Nodup :=
    hall.sublist ((takeOk_prefix _ gOk).sublist.map _)
  have hf : ((freeformYield pieces callname lineno).map (·.num)).Nodup := by
    rcases freeformYield_cases pieces callname lineno with h | ⟨e, h, _⟩ <;> rw [h] <;> simp
  cases style
  · exact hf
  · exact hg
  · rw [parseDocstrExamples_auto]
    split
    · exact hf
    · exact hg

theorem uniqueCallname_spec (e : Ex) : uniqueCallname e = e.callname ++ [':'] ++ natStr e.num := rfl

/-- non-vacuity: a docstring with prose, an `Args` block and two example blocks -/
def demoDoc : Str :=
  "summary\n\nArgs:\n    x: int\n\nExample:\n    >>> f(1)\n    1\n\nDoctest ::\n    >>> g()\n".toList

theorem splitGoogle_demoDoc : splitGoogle demoDoc =
    [⟨"__DOC__".toList, "summary\n".toList, 0⟩, ⟨"Args".toList, "x: int\n".toList, 2⟩,
     ⟨"Example".toList, ">>> f(1)\n1\n".toList, 5⟩, ⟨"Doctest ".toList, ">>> g()\n".toList, 9⟩] := by
  unfold demoDoc; decide_lits

example : (splitGoogle demoDoc).map (fun b => (b.key, b.offset)) =
    [("__DOC__".toList, 0), ("Args".toList, 2), ("Example".toList, 5), ("Doctest ".toList, 9)] := by
  simp only [splitGoogle_demoDoc, List.map]
example : (googleAll demoDoc "f".toList 10).map (fun e => (e.num, e.lineno, e.docsrc)) =
    [(0, 16, ">>> f(1)\n1\n".toList), (1, 20, ">>> g()\n".toList)] := by
  rw [googleAll, exampleBlocks, splitGoogle_demoDoc]; decide_lits

end Xdoc.C07
