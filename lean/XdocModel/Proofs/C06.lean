import XdocModel.Checker
import XdocModel.Lemmas.Ellipsis
/-!
# C06 — Ellipsis is a true wildcard: `...` matches any text, the rest in order
-/
namespace Xdoc.C06
open Xdoc Py Re

/-- The property sentence: `got` can be written as the want's literal pieces in order, the first
    anchored at the start and the last at the end (an empty first/last piece is what a want that
    begins/ends with `...` produces), arbitrary text in place of each `...` and the whitespace
    around it; pieces never overlap (`Scattered`: `mid = x₁ ++ m₁ ++ x₂ ++ … ++ mₖ ++ xₖ₊₁`). -/
def Spec (got want : Str) : Prop :=
  ∃ first mids last, splitEllipsis want = first :: (mids ++ [last]) ∧
    ∃ mid, got = first ++ mid ++ last ∧ Scattered mids mid

/-- `'...' in want` really is substring containment. -/
theorem contains_dots_iff (want : Str) :
    contains dots want = true ↔ ∃ x r, want = x ++ ['.', '.', '.'] ++ r :=
  contains_iff.trans ⟨fun ⟨x, r, h⟩ => ⟨x, r, h.symm⟩, fun ⟨x, r, h⟩ => ⟨x, r, h.symm⟩⟩

/-- ★ the matcher decides exactly the property sentence, for all strings. -/
theorem ellipsis_iff_spec (got want : Str) (h : contains dots want = true) :
    ellipsisMatch got want = true ↔ Spec got want :=
  ellipsisMatch_iff h

/-- ★ without `...` in the want the matcher is plain equality -/
theorem ellipsis_no_dots (got want : Str) (h : contains dots want = false) :
    ellipsisMatch got want = true ↔ got = want :=
  ellipsisMatch_no_dots h

/-- ★ with ELLIPSIS disabled `...` has no special meaning: `_check_match` is equality -/
theorem checkMatch_ellipsis_off (f : Flags) (got want : Str) (h : f.ellipsis = false) :
    checkMatch f got want = true ↔ got = want := by
  simp [checkMatch, h]

/-- ★ with ELLIPSIS enabled `_check_match` is equality or the wildcard relation -/
theorem checkMatch_ellipsis_on (f : Flags) (got want : Str) (h : f.ellipsis = true)
    (hd : contains dots want = true) :
    checkMatch f got want = true ↔ (got = want ∨ Spec got want) := by
  simp [checkMatch, h, ellipsis_iff_spec got want hd]

/-- arbitrary, possibly multi-line text may stand for an ellipsis -/
theorem wildcard_any_text (first last x : Str) :
    ellipsisPieces first [] last (first ++ x ++ last) = true :=
  (ellipsisPieces_iff first last [] _).mpr ⟨x, rfl, .nil _⟩

example : contains dots "aa...aa".toList = true := by decide_lits
example : splitEllipsis "best=...s ave=...s".toList = ["best=".toList, "s ave=".toList, "s".toList] := by
  decide_lits
example : ellipsisMatch "aaa".toList "aa...aa".toList = false := by decide_lits
example : ellipsisMatch "took=3.4s".toList "took=...s".toList = true := by decide_lits
example : ellipsisMatch "a\nb\nc".toList "a ... c".toList = true := by decide_lits
example : Spec "foo".toList "... foo".toList :=
  ⟨[], [], "foo".toList, by decide_lits, [], rfl, .nil _⟩

end Xdoc.C06
