import XdocModel.Proofs.C18
import XdocModel.Proofs.C13Labels
/-!
# C18 ☆ — a step towards `ReparseSame`: the labels of the re-parsed display

`reparse_same_partial` (C18) shows that the text `format_src` displays (prompts and wants, no
numbers) is the `\n`-join of `orig_lines ++ want_lines`, part after part. Here: the labeller of the
SECOND parse receives exactly that list of lines, and labels it as intended whenever it is in the
(larger) grammar of `C13Labels`.

Not shown, and needed for `ReparseSame`: that the lines of a PARSED doctest are always in the grammar (the
converse of `labels_are_intended`; false as it stands for the triple-quote hack, which changes what
the oracle is asked), and the grouping/packaging of the second parse.
-/
namespace Xdoc.C18
open Xdoc Py Format Parser

/-- the lines `format_src` displays -/
def shownLines (parts : List Part) : List Str := parts.flatMap (fun p => origOf p ++ wantOf p)

theorem minIndentation_zero (x : Str) (ls : List Str) (hclean : ∀ l ∈ x :: ls, NoBreak l)
    (hx : indentOf? x = some 0) : minIndentation (joinWith ['\n'] (x :: ls)) = 0 := by
  unfold minIndentation
  rw [splitOn_joinWith_noNL x ls (fun l hl => (hclean l hl).no_nl)]
  simp only [List.filterMap_cons, hx]
  rw [List.foldl_min, Nat.zero_min]

theorem shownLines_clean (parts : List Part) (hp : ∀ p ∈ parts, CleanPart p) :
    CleanLines (shownLines parts) := by
  induction parts with
  | nil => exact ⟨by simp [shownLines], by simp [shownLines]⟩
  | cons p ps ih =>
    obtain ⟨x, ls, ho, hc⟩ := (hp p List.mem_cons_self).orig
    have ho' : origOf p = x :: ls := by simp [origOf, ho]
    rw [show shownLines (p :: ps) = (origOf p ++ wantOf p) ++ shownLines ps by simp [shownLines], ho']
    exact (hc.append (hp p List.mem_cons_self).want).append (ih fun q hq => hp q (List.mem_cons_of_mem _ hq))

/-- ★ the labeller of the second parse receives exactly the displayed lines: `orig_lines` then
    `want_lines`, part after part (clean parts without tabs whose first line is a `>>>` prompt at
    column 0, as the parser builds them) -/
theorem prepareLines_formatSrc (parts : List Part) (hp : ∀ p ∈ parts, CleanPart p) (hne : parts ≠ [])
    (hnotab : ∀ p ∈ parts, ∀ l ∈ origOf p ++ wantOf p, '\t' ∉ l)
    (hfirst : ∃ x ls, shownLines parts = x :: ls ∧ hasPrefix x [ps1] = true) :
    prepareLines (formatSrc parts 0 { linenos := false }) = shownLines parts := by
  obtain ⟨h1, h2⟩ := reparse_same_partial parts hp hne hnotab
  obtain ⟨x, ls, hx, hpx⟩ := hfirst
  have hclean := shownLines_clean parts hp
  have hm : minIndentation (formatSrc parts 0 { linenos := false }) = 0 := by
    rw [h1]
    show minIndentation (joinWith ['\n'] (shownLines parts)) = 0
    rw [hx]
    obtain ⟨-, ⟨c, s, rfl, hc⟩, -⟩ := prompt_line isPrompt_ps1 hpx
    exact minIndentation_zero _ ls (by rw [← hx]; exact hclean.1) (indentOf?_pad 0 s hc)
  unfold prepareLines
  simp only [h2, hm, Nat.lt_irrefl, if_false]
  rw [h1]
  exact splitLines_joinWith _ hclean.1 hclean.2

/-- ★ the second parse labels the displayed lines as intended whenever they are in the grammar -/
theorem reparse_labels (parts : List Part) (hp : ∀ p ∈ parts, CleanPart p) (hne : parts ≠ [])
    (hnotab : ∀ p ∈ parts, ∀ l ∈ origOf p ++ wantOf p, '\t' ∉ l)
    (hfirst : ∃ x ls, shownLines parts = x :: ls ∧ hasPrefix x [ps1] = true)
    (bs : List C13.Block) (hbs : shownLines parts = bs.flatMap C13.Block.render)
    (hwf : ∀ b ∈ bs, b.WellFormedG ∧ b.ContOrdered) (hsep : C13.SeparatedG bs) :
    ∃ out, labelLines (prepareLines (formatSrc parts 0 { linenos := false })) = .ok out ∧
      out.map (·.1) = bs.flatMap C13.Block.intended := by
  rw [prepareLines_formatSrc parts hp hne hnotab hfirst, hbs]
  exact C13.labels_are_intended_general bs hwf hsep

/-! non-vacuity: the two parts of `exParts` (`>>> x = 1` / `>>> x` with want `1`) -/

def exBlocks : List C13.Block := [.example 0 [[">>> x = 1".toList], [">>> x".toList]] ["1".toList]]

example : ∃ out, labelLines (prepareLines (formatSrc exParts 0 { linenos := false })) = .ok out ∧
    out.map (·.1) = [.dsrc, .dsrc, .want] :=
  reparse_labels exParts exParts_clean (by simp [exParts]) (by decide +kernel)
    ⟨_, _, rfl, by decide +kernel⟩ exBlocks (by decide +kernel)
    (fun b hb => C13.Block.checkG_sound (List.all_eq_true.mp (by decide +kernel) b hb))
    (C13.separatedGB_sound (by decide +kernel))

end Xdoc.C18
