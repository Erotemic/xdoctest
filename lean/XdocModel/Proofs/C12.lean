import XdocModel.Lemmas.Bracket
/-!
# C12 — Process-global state is restored after every outcome

About the bracket model (`Bracket.lean`), for ALL bodies (arbitrary functions on the process state:
they may replace `sys.stdout`, rebind or edit `warnings.filters`, edit `sys.path`), ALL endings
(normal, Exception, SystemExit, KeyboardInterrupt), all part lists.
-/
namespace Xdoc.C12
open Xdoc

/-- ★ `sys.stdout` after the run is the object it was before — also when a body
    replaces it or the capture stream fails — provided the pre-import (run outside the capture) does
    not itself replace it -/
theorem stdout_restored (capObj freshList logAppend showOrig : Obj) (pre : Body)
    (parts : List PartBody) (st : PState) (hpre : ∀ s, (pre s).1.stdout = s.stdout) :
    (runBracket capObj freshList logAppend showOrig pre parts st).1.stdout = st.stdout := by
  simp only [runBracket, withCatchWarnings, cwExit, cwEnter]
  cases parts with
  | nil => rfl
  | cons p rest =>
    simp only
    split
    · exact partsLoop_stdout (Cap.new true capObj st) rfl (p :: rest) _ (by simp)
    · rw [hpre]

/-- ★ whatever the pre-import does: once a part has been captured, `sys.stdout` is the object it
    was when the run started -/
theorem stdout_restored_after_part (capObj freshList logAppend showOrig : Obj)
    (pre : Body) (parts : List PartBody) (st : PState) (hne : parts ≠ [])
    (hpre : (pre (cwEnter freshList logAppend showOrig st).2).2 = .normal) :
    (runBracket capObj freshList logAppend showOrig pre parts st).1.stdout = st.stdout := by
  simp only [runBracket, withCatchWarnings, cwExit]
  cases parts with
  | nil => exact absurd rfl hne
  | cons p rest =>
    simp only [hpre]
    exact partsLoop_stdout (Cap.new true capObj st) rfl (p :: rest) _ (by simp)

/-- ★ `sys.stderr` is never touched by the brackets: if no body replaces it, it is unchanged -/
theorem stderr_untouched (capObj freshList logAppend showOrig : Obj) (pre : Body)
    (parts : List PartBody) (st : PState) (hpre : ∀ s, (pre s).1.stderr = s.stderr)
    (hb : ∀ p ∈ parts, ∀ s, (p.body s).1.stderr = s.stderr) :
    (runBracket capObj freshList logAppend showOrig pre parts st).1.stderr = st.stderr := by
  simp only [runBracket, withCatchWarnings, cwExit, cwEnter]
  cases parts with
  | nil => rfl
  | cons p rest =>
    simp only
    split
    · rw [partsLoop_stderr _ _ _ hb, hpre]
    · rw [hpre]

theorem catch_warnings_restores (freshList logAppend showOrig : Obj) (body : Body) (st : PState) :
    let r := (withCatchWarnings freshList logAppend showOrig body st).1
    r.filters = st.filters ∧ r.showwarning = st.showwarning ∧ r.showwarnmsgImpl = st.showwarnmsgImpl := by
  simp [withCatchWarnings, cwExit, cwEnter]

/-- ★ `warnings.filters` is the same list object with the same contents, and
    `showwarning` / `_showwarnmsg_impl` are the same objects -/
theorem filters_restored (capObj freshList logAppend showOrig : Obj) (pre : Body)
    (parts : List PartBody) (st : PState) :
    let r := (runBracket capObj freshList logAppend showOrig pre parts st).1
    r.filters = st.filters ∧ r.showwarning = st.showwarning ∧ r.showwarnmsgImpl = st.showwarnmsgImpl :=
  catch_warnings_restores freshList logAppend showOrig _ st

/-- ★ if the body leaves `sys.path` as it found it, the exit restores the
    original list exactly and silently, for EVERY index up to the length of the list: 0, -1, and
    every negative integer however large (clamped by `__enter__`, b193b74) -/
theorem syspath_restored (dpath : String) (index : Int) (body : Body) (st : PState) (w : Bool)
    (hbody : ∀ s, (body s).1.sysPath = s.sysPath) (hhi : index ≤ st.sysPath.length) :
    (withPPC dpath index body st w).1.sysPath = st.sysPath ∧
    (withPPC dpath index body st w).2.2 = .clean ∧
    (withPPC dpath index body st w).2.1 = (body { st with sysPath := (ppcEnter dpath index st.sysPath).2 }).2 := by
  have := ppcExit_after_insert w dpath st.sysPath _ (ppcEnterIndex_spec _ index).1 ((ppcEnterIndex_spec _ index).2.1 hhi)
  refine ⟨?_, ?_, ?_⟩ <;> simp [withPPC, ppcEnter, hbody, this, exitEnding]

/-- the endings of `__exit__` in which the temporary entry has been removed -/
def Removed (r : ExitResult) : Prop := r = .clean ∨ r = .recovered ∨ r = .warnRaised

theorem ppcRecover_spec (w : Bool) (d : String) (path : List String) :
    let r := ppcRecover w d path
    (Removed r.2 ∧ r.1.filter (· ≠ d) = path.filter (· ≠ d) ∧ r.1.count d + 1 = path.count d) ∨
    (r.2 = .runtimeError ∧ r.1 = path ∧ d ∉ path) := by
  simp only [ppcRecover]
  cases h : path.idxOf? d with
  | none => exact Or.inr ⟨rfl, rfl, List.idxOf?_eq_none_iff.mp h⟩
  | some k =>
    obtain ⟨hk, hget, _⟩ := List.idxOf?_eq_some_iff.mp h
    have := eraseIdx_one_occurrence d path k (by rw [List.getElem?_eq_getElem hk, hget])
    exact Or.inl ⟨by cases w <;> simp [Removed], this.1, this.2⟩

/-- ★ an index beyond the end (the entry is appended, found again by search): restored exactly when
    `dpath` was not already listed — with a warning, or, when warnings are errors, with that warning
    raised AFTER the entry was removed (c14b47c) -/
theorem syspath_restored_far_index (dpath : String) (index : Int) (body : Body) (st : PState) (w : Bool)
    (hbody : ∀ s, (body s).1.sysPath = s.sysPath)
    (hhi : (st.sysPath.length : Int) < index) (hnew : dpath ∉ st.sysPath) :
    (withPPC dpath index body st w).1.sysPath = st.sysPath ∧
    (withPPC dpath index body st w).2.2 = (if w then .warnRaised else .recovered) := by
  have h := withPPC_far_index dpath index body st w hbody hhi
  rwa [List.erase_append_right _ hnew, List.erase_cons_head, List.append_nil] at h

/-- ★ for EVERY integer index a body that leaves `sys.path` alone
    gets it back with exactly the entries it had (a permutation; the very same list for every index
    up to the length, and for larger indices whenever `dpath` was not already listed), and `__exit__`
    raises neither `RuntimeError` nor `IndexError`. (For an index beyond the end with `dpath` already listed the search finds the older
    occurrence: same entries, `dpath` last.) -/
theorem syspath_restored_every_index (dpath : String) (index : Int) (body : Body) (st : PState) (w : Bool)
    (hbody : ∀ s, (body s).1.sysPath = s.sysPath) :
    (withPPC dpath index body st w).1.sysPath.Perm st.sysPath ∧
    (withPPC dpath index body st w).2.2 ≠ .runtimeError ∧
    (withPPC dpath index body st w).2.2 ≠ .indexError ∧
    ((index ≤ st.sysPath.length ∨ dpath ∉ st.sysPath) → (withPPC dpath index body st w).1.sysPath = st.sysPath) := by
  by_cases hhi : index ≤ st.sysPath.length
  · obtain ⟨h1, h2, _⟩ := syspath_restored dpath index body st w hbody hhi
    rw [h1, h2]
    exact ⟨List.Perm.refl _, by simp, by simp, fun _ => rfl⟩
  · have hhi' : (st.sysPath.length : Int) < index := by omega
    obtain ⟨hp, hr⟩ := withPPC_far_index dpath index body st w hbody hhi'
    have hperm : ((st.sysPath ++ [dpath]).erase dpath).Perm st.sysPath :=
      ((List.perm_cons_erase (by simp)).symm.trans (List.perm_append_singleton _ _)).cons_inv
    refine ⟨hp ▸ hperm, by rw [hr]; split <;> simp, by rw [hr]; split <;> simp, fun h => ?_⟩
    exact (syspath_restored_far_index dpath index body st w hbody hhi' (h.resolve_left hhi)).1

/-- ◐ bodies that edit `sys.path`: unless `dpath` is absent,
    exactly one occurrence of it has been removed and every other entry keeps its place — ALSO when the
    warning about the mangled path is raised as an error (it is raised after the removal, c14b47c);
    `RuntimeError` only when `dpath` is absent (nothing to remove); `IndexError` only for a negative
    stored index (which `__enter__` never stores) -/
theorem syspath_one_occurrence_removed (w : Bool) (d : String) (idx : Int) (path : List String) :
    let r := ppcExit w d idx path
    (Removed r.2 ∧ r.1.filter (· ≠ d) = path.filter (· ≠ d) ∧ r.1.count d + 1 = path.count d) ∨
    (r.2 = .runtimeError ∧ r.1 = path ∧ d ∉ path) ∨
    (r.2 = .indexError ∧ r.1 = path ∧ idx < 0) := by
  simp only [ppcExit]
  split
  · exact (ppcRecover_spec w d path).imp_right .inl
  · split
    · next hlen _ hpos =>
      -- `path[idx]` fails although `idx < len`: only for a negative index
      refine Or.inr (Or.inr ⟨rfl, rfl, Int.not_le.mp fun h0 => ?_⟩)
      rw [pyIndexPos_nonneg _ _ h0 (by omega)] at hpos
      cases hpos
    · next k hpos =>
      split
      · next hget =>
        have := eraseIdx_one_occurrence d path k hget
        exact Or.inl ⟨Or.inl rfl, this.1, this.2⟩
      · exact (ppcRecover_spec w d path).imp_right .inl

/-- ★ with a stored index `≥ 0` `__exit__` never raises `IndexError`, however the body changed
    `sys.path` (bc2ba1f) … -/
theorem exit_no_index_error (w : Bool) (d : String) (idx : Int) (path : List String) (h : 0 ≤ idx) :
    (ppcExit w d idx path).2 ≠ .indexError := by
  have := syspath_one_occurrence_removed w d idx path
  simp only at this
  rcases this with ⟨h1, _⟩ | ⟨h1, _⟩ | ⟨_, _, h3⟩
  · rcases h1 with h1 | h1 | h1 <;> rw [h1] <;> simp
  · rw [h1]; simp
  · omega

/-- ★ … and `__enter__` stores such an index for EVERY integer it is given (b193b74): whatever the
    index and whatever the body does to `sys.path`, the `with` statement never ends in `IndexError` -/
theorem withPPC_no_index_error (dpath : String) (index : Int) (body : Body) (st : PState) (w : Bool) :
    (withPPC dpath index body st w).2.2 ≠ .indexError := by
  simp only [withPPC, ppcEnter]
  exact exit_no_index_error w dpath _ _ (ppcEnterIndex_spec _ _).1

/-- ◐ the same for the whole `with` statement around an arbitrary body: the temporary entry (one
    occurrence) is gone unless the body itself removed every occurrence -/
theorem withPPC_one_occurrence_removed (dpath : String) (index : Int) (body : Body) (st : PState) (w : Bool) :
    let after := (body { st with sysPath := (ppcEnter dpath index st.sysPath).2 }).1.sysPath
    let r := withPPC dpath index body st w
    (Removed r.2.2 ∧ r.1.sysPath.filter (· ≠ dpath) = after.filter (· ≠ dpath) ∧
        r.1.sysPath.count dpath + 1 = after.count dpath) ∨
    (r.2.2 = .runtimeError ∧ r.1.sysPath = after ∧ dpath ∉ after ∧ r.2.1 = .exception) := by
  have := syspath_one_occurrence_removed w dpath (ppcEnter dpath index st.sysPath).1
    (body { st with sysPath := (ppcEnter dpath index st.sysPath).2 }).1.sysPath
  have hni := withPPC_no_index_error dpath index body st w
  simp only at this
  simp only [withPPC] at hni ⊢
  rcases this with ⟨a, b, c⟩ | ⟨a, b, c⟩ | ⟨a, _, _⟩
  · exact Or.inl ⟨a, b, c⟩
  · exact Or.inr ⟨a, b, c, by rw [a]; rfl⟩
  · exact absurd a hni

def st0 : PState :=
  { stdout := 1, stderr := 2, filters := { id := 3, items := [7, 8] }, showwarning := 4,
    showwarnmsgImpl := 5, sysPath := ["a", "b", "c"] }

def nasty (e : Ending) : PartBody :=
  { body := opsBody [.setStdout 77, .addFilter 9, .rebindFilters 50, .setShowwarning 51] e }

example : (runBracket 10 11 12 13 (opsBody [] .normal)
    [nasty .normal, nasty .keyboardInterrupt, nasty .normal] st0) = (st0, .keyboardInterrupt) := by
  decide +kernel
/-- the capture stream was closed by the body: `log_part` raises, `stop()` still runs -/
example : (runBracket 10 11 12 13 (opsBody [] .normal) [{ nasty .normal with logRaises := fun _ => true }] st0)
    = (st0, .exception) := by decide +kernel
example : (withPPC "d" (-1) (opsBody [] .exception) st0).1.sysPath = ["a", "b", "c"] :=
  (syspath_restored "d" (-1) (opsBody [] .exception) st0 false (fun _ => rfl) (by decide)).1
example : (withPPC "d" (-1) (opsBody [] .normal) st0) = (st0, .normal, .clean) := by decide +kernel
/-- an index below `-2·len-2` (repaired by b193b74): clamped to the front, removed silently -/
example : (withPPC "d" (-9) (opsBody [] .normal) st0) = (st0, .normal, .clean) := by decide +kernel
example : (withPPC "d" (-100) (opsBody [] .keyboardInterrupt) st0 true) = (st0, .keyboardInterrupt, .clean) := by
  decide +kernel
/-- the imported module inserts an entry in front: recovered by search, the entry of the module stays -/
example : (withPPC "d" (-1) (opsBody [.pathInsert 0 "x"] .normal) st0).1.sysPath = ["x", "a", "b", "c"] ∧
    (withPPC "d" (-1) (opsBody [.pathInsert 0 "x"] .normal) st0).2.2 = .recovered := by decide +kernel
/-- the same while warnings are errors (c14b47c): the warning propagates as an exception, the
    temporary entry is gone all the same -/
example : (withPPC "d" (-1) (opsBody [.pathInsert 0 "x"] .normal) st0 true) =
    ({ st0 with sysPath := ["x", "a", "b", "c"] }, .exception, .warnRaised) := by decide +kernel
/-- `dpath` already listed and the body shifts the list: the WRONG occurrence is removed (the
    multiset is right, the order of the other entries is kept, the position of `dpath` is not) -/
example : (withPPC "a" (-1) (opsBody [.pathInsert 0 "x"] .normal) st0).1.sysPath = ["x", "b", "c", "a"] := by
  decide +kernel
/-- index beyond the end AND `dpath` already listed, body untouched: same entries, `dpath` moved last
    (why `syspath_restored_every_index` states a permutation for this corner) -/
example : (withPPC "a" 10 (opsBody [] .normal) st0).1.sysPath = ["b", "c", "a"] := by decide +kernel
example : (withPPC "d" 0 (opsBody [.pathRemove "d"] .normal) st0) = (st0, .exception, .runtimeError) := by
  decide +kernel
/-- index beyond the end: appended, recovered by search (bc2ba1f) -/
example : (withPPC "d" 10 (opsBody [] .normal) st0) = (st0, .normal, .recovered) := by decide +kernel

end Xdoc.C12
