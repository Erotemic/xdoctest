import XdocModel.Dump
import XdocModel.Lemmas.Lines
/-!
# C19 — The dump command emits every doctest statement, in order

Theorems about `Dump.dumpModule` (the model of `runner._convert_to_test_module`) for ALL lists of
examples whose parts have clean lines (no line-break character inside a line, no empty last line)
and whose names contain no newline. NOT proved, only observed by the correspondence (every real
dump is `ast.parse`d): that the emitted text is syntactically valid Python — there is no Python
grammar in the model. In particular re-indenting by four columns changes the CONTENT of a
multi-line string literal (finding K-C19-a); the theorems below are about lines, which is what the
conversion manipulates.
-/
namespace Xdoc.C19
open Xdoc Py Format Dump

/-- the same predicate as `C18.CleanLines` -/
def CleanLines (ls : List Str) : Prop := (∀ l ∈ ls, NoBreak l) ∧ ls.getLast? ≠ some []

def kept (p : Part) : List Str := removeStar p.execLines

def wantComments (p : Part) : List Str :=
  match p.wantLines with
  | some (w :: ws) =>
    if (joinWith ['\n'] (w :: ws)).isEmpty then []
    else "# doctest want:".toList :: (w :: ws).map ("# ".toList ++ ·)
  | _ => []

structure CleanPart (p : Part) : Prop where
  kept : ∃ x r, kept p = x :: r ∧ CleanLines (x :: r)
  want : ∀ l ∈ p.wantLines.getD [], '\n' ∉ l

/-- ★ `wants_are_comments_after_their_part` (and the part's share of `dump_body_is_source`): the
    lines a part contributes to the function body are exactly its exec lines minus the lines
    containing `' import *'`, in order, each once, followed — if it has a want — by the line
    `# doctest want:` and every want line as a `# ` comment, in order -/
theorem wants_are_comments_after_their_part (p : Part) (hp : CleanPart p) :
    splitOn '\n' (dumpPart p) = kept p ++ wantComments p := by
  obtain ⟨x, r, hk, hc⟩ := hp.kept
  -- `hbody`: the formatted part is the join of the kept lines; then every `join` / `indent` of the dumped
  -- text is split piece by piece, in each of the three shapes a want can have
  have hbody : formatPart { p with execLines := removeStar p.execLines }
      { linenos := false, want := false, prefix_ := false, partnos := false } = joinWith ['\n'] (x :: r) := by
    unfold formatPart formatPartLines
    simp only [Bool.false_eq_true, ↓reduceIte, Part.source]
    unfold kept at hk
    rw [hk, splitLines_joinWith _ hc.1 hc.2]
    simp
  have hx : splitOn '\n' (joinWith ['\n'] (x :: r)) = x :: r :=
    splitOn_joinWith_noNL x r (fun l hl => (hc.1 l hl).no_nl)
  unfold dumpPart
  simp only [hbody]
  unfold wantComments Part.want
  cases hw : p.wantLines with
  | none => simp [hx, hk]
  | some wl =>
    cases wl with
    | nil => simp [hx, hk]
    | cons w ws =>
      simp only
      have hwn : ∀ l ∈ w :: ws, '\n' ∉ l := by
        intro l hl; exact hp.want l (by simp [hw] at hl ⊢; exact hl)
      cases hj : joinWith ['\n'] (w :: ws) with
      | nil => simp [hx, hk]
      | cons c t =>
        simp only [List.isEmpty_cons, Bool.false_eq_true, ↓reduceIte]
        have e : "# doctest want:\n".toList = "# doctest want:".toList ++ ['\n'] := by decide_lits
        simp only [e, List.append_assoc, List.cons_append, List.nil_append]
        rw [splitOn_append_nl, splitOn_append_nl, hx, splitOn_indent _ (by decide_lits), ← hj,
          splitOn_joinWith_noNL w ws hwn, splitOn_noNL _ (by decide_lits), hk]
        simp

def bodyLines (e : Example) : List Str :=
  docstrLines e ++ headerLines e ++ e.parts.flatMap (fun p => kept p ++ wantComments p)

def defLine (e : Example) : Str := "def ".toList ++ funcName e ++ "():".toList

structure CleanExample (e : Example) : Prop where
  parts : ∀ p ∈ e.parts, CleanPart p
  nonempty : e.parts ≠ []
  names : '\n' ∉ e.modname ∧ '\n' ∉ e.callname ∧ '\n' ∉ e.node ∧ ∀ u ∈ e.undefined, '\n' ∉ u

/-- ★ `dump_body_is_source`: the text of a test function is the `def` line followed by, each
    indented by exactly four blanks: the three docstring lines, the optional import line, and then
    for every part in order its exec lines minus star-imports and its want comments. Removing the
    header, the comment lines and the 4-column indent therefore leaves exactly the doctest's
    exec lines minus star-imports, each once, in order. -/
theorem dump_body_is_source (e : Example) (he : CleanExample e) :
    splitOn '\n' (dumpExample e) = defLine e :: (bodyLines e).map ("    ".toList ++ ·) := by
  obtain ⟨hm, hcn, hnode, hund⟩ := he.names
  have hdef : '\n' ∉ defLine e := by
    simp [defLine, funcName, nl_not_mem_dotsToUnderscore hm, nl_not_mem_dotsToUnderscore hcn]
  have hparts : (e.parts.map dumpPart).flatMap (splitOn '\n') = e.parts.flatMap (fun p => kept p ++ wantComments p) := by
    rw [List.flatMap_map]
    exact flatMap_congr fun p hp => wants_are_comments_after_their_part p (he.parts p hp)
  have hbt : bodyTexts e = e.parts.map dumpPart := by
    unfold bodyTexts
    cases hps : e.parts with
    | nil => exact absurd hps he.nonempty
    | cons q qs => simp
  have hdoc : (docstrLines e).flatMap (splitOn '\n') = docstrLines e :=
    flatMap_splitOn_noNL _ (by simp [docstrLines, hnode])
  have hhdr : (headerLines e).flatMap (splitOn '\n') = headerLines e := by
    refine flatMap_splitOn_noNL _ fun l hl => ?_
    unfold headerLines at hl
    split at hl
    · cases hl
    · rw [List.mem_singleton.mp hl]
      simp only [List.mem_append, not_or]
      exact ⟨⟨⟨by decide_lits, hm⟩, by decide_lits⟩,
        fun h => (mem_joinWith h).elim (by decide_lits) fun ⟨u, hu, hx⟩ => hund u hu hx⟩
  -- no piece holds a newline, so `split` undoes every `join` and `indent` piece by piece
  unfold dumpExample
  have e1 : "():\n".toList = "():".toList ++ ['\n'] := by decide_lits
  simp only [e1]
  rw [← List.append_assoc, List.append_assoc _ ['\n'], List.singleton_append]
  show splitOn '\n' (defLine e ++ _) = _
  rw [splitOn_append_nl, splitOn_noNL _ hdef, splitOn_indent _ (by decide_lits)]
  rw [splitOn_joinWith _ (by simp [docstrLines]), List.flatMap_append, List.flatMap_append, hdoc, hhdr, hbt, hparts]
  rfl

def funcLines (e : Example) : List Str := defLine e :: (bodyLines e).map ("    ".toList ++ ·)

theorem dump_module_lines (es : List Example) (he : ∀ e ∈ es, CleanExample e) (hne : es ≠ []) :
    splitOn '\n' (dumpModule es) = joinWith [[], []] (es.map funcLines) := by
  unfold dumpModule
  rw [show "\n\n\n".toList = List.replicate 3 '\n' by decide_lits,
    splitOn_joinWith_newlines 2 _ (by simpa using hne), List.map_map]
  exact congrArg _ (List.map_congr_left fun e h => dump_body_is_source e (he e h))

/-- a line that starts a top-level statement -/
def isTop : Str → Bool
  | [] => false
  | c :: _ => c != ' '

/-- ★ `dump_one_function_per_example`: the lines of the dumped module that start a top-level
    statement (first character not a blank, line not empty) are exactly the `def test_…():` lines,
    one per enabled example, in order -/
theorem dump_one_function_per_example (es : List Example) (he : ∀ e ∈ es, CleanExample e) (hne : es ≠ []) :
    (splitOn '\n' (dumpModule es)).filter isTop = es.map defLine := by
  have hbody : ∀ ls : List Str, (ls.map ("    ".toList ++ ·)).filter isTop = [] := by
    intro ls
    induction ls with
    | nil => rfl
    | cons l ls ih => simp [isTop]
  have hfunc : ∀ e ∈ es, (List.filter isTop ∘ funcLines) e = [defLine e] := fun e _ => by
    have hdef : isTop (defLine e) = true := by simp [defLine, isTop]
    rw [Function.comp_apply, funcLines, List.filter_cons, hdef, if_pos rfl, hbody]
  rw [dump_module_lines es he hne, filter_joinWith _ rfl, List.map_map, List.map_congr_left hfunc,
    ← List.flatMap_def, ← List.map_eq_flatMap]

def exPart1 : Part := { execLines := ["from os import *".toList, "x = 1".toList, "print(x)".toList],
                        wantLines := some ["1".toList] }
def exEx : Example := { modname := "pkg.m".toList, callname := "K.f".toList, node := "m.py::K.f:0".toList,
                        parts := [exPart1], undefined := ["K".toList] }

example : dumpModule [exEx] =
    "def test_pkg_m_K_f():\n    \"\"\"\n    converted from m.py::K.f:0\n    \"\"\"\n    from pkg.m import K\n    x = 1\n    print(x)\n    # doctest want:\n    # 1".toList := by
  unfold exEx exPart1; decide_lits

end Xdoc.C19
