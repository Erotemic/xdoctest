import XdocModel.Runner
import XdocModel.Lemmas.Runner
import XdocModel.Proofs.C02
/-!
# C10 — Native runner tallies and exit status agree with the per-doctest outcomes

Theorems about the runner model (`Runner.lean`) for ALL lists of collected doctests, ALL source
texts, ALL per-doctest results.  Where the per-doctest result is the summary of a run of the
`Example.lean` model, `C02.verdict_trichotomy` supplies the "exactly one of passed / failed /
skipped" fact the tallies need.
-/
namespace Xdoc.C10
open Xdoc Py

variable {Env : Type}

/-- ★ a recorded failure is a FAILED doctest whatever ran before it — in particular when the
    failure precedes the first executed part (compile-only error such as `return 5` in the first
    part that is not skipped, a malformed directive, the module under test raising on import):
    nothing was logged, no part was skipped at the failing position, and the summary still says
    failed, not skipped.  (`skipped` is "every part is in `_skipped_parts`", not "nothing ran".) -/
theorem failure_recorded_is_failed (sat : Str → Option Bool) (sem : Env → Nat → RunPart → ExecResult × Env)
    (cfg : RunCfg) (env0 : Env) (parts : List RunPart)
    (h : (run sat sem cfg env0 parts).state.failure.isSome = true) :
    (run sat sem cfg env0 parts).summary.failed = true ∧
    (run sat sem cfg env0 parts).summary.skipped = false ∧
    (run sat sem cfg env0 parts).summary.passed = false := by
  cases hf : (run sat sem cfg env0 parts).state.failure with
  | none => rw [hf] at h; cases h
  | some fl =>
    have hns := C02.failed_not_all_skipped sat sem cfg env0 parts fl hf
    simp [run_summary, summaryOf, hf, hns]

def entriesOf (sat : Str → Option Bool) (sem : Doc → Env → Nat → RunPart → ExecResult × Env)
    (defaults : List (String × Bool)) (importOk : Bool) (env0 : Env)
    (docs : List (Doc × List RunPart)) : List Entry :=
  docs.map fun dp => { doc := dp.1, result := resultOfRun (run sat (sem dp.1) (nativeCfg defaults importOk) env0 dp.2) }

theorem entriesOf_exclusive (sat : Str → Option Bool) (sem : Doc → Env → Nat → RunPart → ExecResult × Env)
    (defaults : List (String × Bool)) (importOk : Bool) (env0 : Env) (docs : List (Doc × List RunPart)) :
    ∀ e ∈ entriesOf sat sem defaults importOk env0 docs,
      e.result ≠ .interrupt ∧ ∀ s, e.result = .summary s → s.Exclusive := by
  intro e he
  simp only [entriesOf, List.mem_map] at he
  obtain ⟨dp, _, rfl⟩ := he
  refine ⟨(resultOfRun_spec _).1, ?_⟩
  intro s hs
  rw [(resultOfRun_spec _).2 s hs]
  -- `Summary.Exclusive` is, by definition, the disjunction `verdict_trichotomy` states
  exact C02.verdict_trichotomy _ _ _ _ _

theorem entriesOf_callname (sat : Str → Option Bool) (sem : Doc → Env → Nat → RunPart → ExecResult × Env)
    (defaults : List (String × Bool)) (importOk : Bool) (env0 : Env) {docs : List (Doc × List RunPart)}
    {c : Str} (hz : ∀ z ∈ docs, z.1.callname ≠ c) :
    ∀ z ∈ entriesOf sat sem defaults importOk env0 docs, z.doc.callname ≠ c := by
  intro z hzm
  obtain ⟨dp, hdp, rfl⟩ := List.mem_map.mp hzm
  exact hz dp hdp

/-- ★ `tally_adds_up` (arithmetic core): when every summary is exclusive and no run was interrupted
    by Ctrl-C, the numbers of passed, failed and skipped doctests add up to the number run -/
theorem tally_adds_up_core (es : List Entry) (rs : RunSummary) (h : runExamples es = some rs)
    (hex : ∀ e ∈ es, ∀ s, e.result = .summary s → s.Exclusive)
    (hni : ∀ e ∈ es, e.result ≠ .interrupt) :
    rs.nPassed + rs.nFailed + rs.nSkipped = rs.nTotal ∧ rs.nTotal = rs.ran.length := by
  obtain ⟨rfl, hret⟩ := returns_of_runExamples h hni
  refine ⟨?_, rfl⟩
  simp only [summaryOfReturns]
  rw [← List.length_map (f := Entry.summaryD)]
  apply countTrue_exclusive
  intro s hs
  obtain ⟨e, he, rfl⟩ := List.mem_map.mp hs
  exact hex e he _ (Entry.result_of_returns (hret e he))

/-- ★ `tally_adds_up`: for every module (list of collected doctests with their parts), every
    requirement / execution / import oracle and every option default, and EVERY command, whenever
    the native runner runs doctests and returns a run summary,
    `n_passed + n_failed + n_skipped = n_total` (= the number of doctests it ran). -/
theorem tally_adds_up (sat : Str → Option Bool) (sem : Doc → Env → Nat → RunPart → ExecResult × Env)
    (defaults : List (String × Bool)) (importOk : Bool) (env0 : Env)
    (docs zeroDocs : List (Doc × List RunPart)) (cmd : Str) (rs : RunSummary)
    (h : doctestModule cmd (entriesOf sat sem defaults importOk env0 docs)
          (entriesOf sat sem defaults importOk env0 zeroDocs) = .ran rs) :
    rs.nPassed + rs.nFailed + rs.nSkipped = rs.nTotal ∧ rs.nTotal = rs.ran.length := by
  have hsub : ∀ e ∈ gather cmd (entriesOf sat sem defaults importOk env0 docs)
      (entriesOf sat sem defaults importOk env0 zeroDocs),
      e.result ≠ .interrupt ∧ ∀ s, e.result = .summary s → s.Exclusive := fun e he =>
    (mem_gather he).elim (entriesOf_exclusive sat sem defaults importOk env0 docs e)
      (entriesOf_exclusive sat sem defaults importOk env0 zeroDocs e)
  exact tally_adds_up_core _ rs (runExamples_of_doctestModule_ran h) (fun e he => (hsub e he).2) (fun e he => (hsub e he).1)

/-- the hypothesis "no Ctrl-C" is needed: an interrupted run counts doctests that never ran -/
theorem interrupt_breaks_tally :
    ∃ es rs, runExamples es = some rs ∧ rs.nPassed + rs.nFailed + rs.nSkipped < rs.nTotal ∧
      exitCode (.ran rs) = 0 :=
  ⟨[⟨⟨"f".toList, 0, []⟩, .summary ⟨true, false, false⟩⟩, ⟨⟨"g".toList, 0, []⟩, .interrupt⟩,
    ⟨⟨"h".toList, 0, []⟩, .summary ⟨false, true, false⟩⟩], _, rfl, by decide, by decide⟩

/-- ★ `failed_list_exact`: the `failed` list holds exactly the doctests that were run and whose
    summary says failed, in run order; `n_failed` is its length -/
theorem failed_list_exact (es : List Entry) (rs : RunSummary) (h : runExamples es = some rs)
    (hex : ∀ e ∈ es, ∀ s, e.result = .summary s → s.Exclusive)
    (hni : ∀ e ∈ es, e.result ≠ .interrupt) :
    rs.failed = es.filter Entry.failed ∧ rs.nFailed = rs.failed.length ∧
    (∀ e, e ∈ rs.failed ↔ e ∈ es ∧ e.failed = true) := by
  obtain ⟨rfl, hret⟩ := returns_of_runExamples h hni
  have hf : es.filter Entry.inFailedBranch = es.filter Entry.failed := List.filter_congr fun e he => by
    rw [Entry.inFailedBranch_of_returns (hret e he), Entry.failed_eq]
    exact (hex e he _ (Entry.result_of_returns (hret e he))).failed_eq
  refine ⟨hf, ?_, fun e => by rw [show (summaryOfReturns es).failed = es.filter Entry.failed from hf, List.mem_filter]⟩
  show countTrue (·.failed) (es.map Entry.summaryD) = (es.filter Entry.inFailedBranch).length
  rw [hf, countTrue_map]; simp only [← Entry.failed_eq]

theorem exit_zero_list_dump (examples zero : List Entry) :
    exitCode (doctestModule cmdList examples zero) = 0 ∧
    exitCode (doctestModule cmdDump examples zero) = 0 := by
  constructor <;> simp [doctestModule, exitCode, nFailedOf, cmdList, cmdDump] <;> decide

/-- ★ `all_runs_enabled_once`: `all` runs exactly the collected doctests that are not
    force-disabled, each once, in collection order, and no other (the zero-arg fallback stays
    silent unless a function is itself called `all`); `n_total` is their number.  Stated for
    every run that is not cut short by an escaping exception or Ctrl-C. -/
theorem all_runs_enabled_once (examples zero : List Entry)
    (hz : ∀ z ∈ zero, z.doc.callname ≠ cmdAll)
    (hret : ∀ e ∈ examples, isDisabled false e.doc.docsrc = false → e.returns) :
    ∃ rs, doctestModule cmdAll examples zero = .ran rs ∧
      rs.ran = examples.filter (fun e => !isDisabled false e.doc.docsrc) ∧
      rs.nTotal = rs.ran.length ∧
      (∀ e, rs.ran.count e = if isDisabled false e.doc.docsrc then 0 else examples.count e) := by
  refine ⟨_, doctestModule_all examples zero hz hret, rfl, rfl, fun e => ?_⟩
  simp only [summaryOfReturns]
  cases hd : isDisabled false e.doc.docsrc
  · simp only [Bool.false_eq_true, ↓reduceIte]
    exact List.count_filter (by simp [hd])
  · simp only [↓reduceIte]
    exact List.count_eq_zero_of_not_mem fun hm => by simpa [hd] using (List.mem_filter.mp hm).2

/-- ★ `exit_nonzero_iff_failed`: `python -m xdoctest <mod> all` exits non-zero iff at least one
    collected doctest that is not force-disabled failed -/
theorem exit_nonzero_iff_failed (examples zero : List Entry)
    (hz : ∀ z ∈ zero, z.doc.callname ≠ cmdAll)
    (hret : ∀ e ∈ examples, isDisabled false e.doc.docsrc = false → e.returns)
    (hex : ∀ e ∈ examples, ∀ s, e.result = .summary s → s.Exclusive) :
    exitCode (doctestModule (mainCommand none) examples zero) ≠ 0 ↔
      ∃ e ∈ examples, isDisabled false e.doc.docsrc = false ∧ e.failed = true := by
  rw [show mainCommand none = cmdAll from rfl, doctestModule_all examples zero hz hret, exitCode_summaryOfReturns]
  simp only [List.mem_filter, Bool.not_eq_true', and_assoc]

theorem exit_nonzero_iff_failed_entriesOf (sat : Str → Option Bool)
    (sem : Doc → Env → Nat → RunPart → ExecResult × Env)
    (defaults : List (String × Bool)) (importOk : Bool) (env0 : Env)
    (docs zeroDocs : List (Doc × List RunPart))
    (hz : ∀ z ∈ zeroDocs, z.1.callname ≠ cmdAll)
    (hres : ∀ dp ∈ docs, resultOfRun (run sat (sem dp.1) (nativeCfg defaults importOk) env0 dp.2) =
      .summary (run sat (sem dp.1) (nativeCfg defaults importOk) env0 dp.2).summary) :
    exitCode (doctestModule (mainCommand none) (entriesOf sat sem defaults importOk env0 docs)
        (entriesOf sat sem defaults importOk env0 zeroDocs)) ≠ 0 ↔
      ∃ dp ∈ docs, isDisabled false dp.1.docsrc = false ∧
        (run sat (sem dp.1) (nativeCfg defaults importOk) env0 dp.2).summary.failed = true := by
  rw [exit_nonzero_iff_failed _ _ (entriesOf_callname sat sem defaults importOk env0 hz)
    (fun e he _ => by obtain ⟨dp, hdp, rfl⟩ := List.mem_map.mp he; exact ⟨_, hres dp hdp⟩)
    (fun e he => (entriesOf_exclusive sat sem defaults importOk env0 docs e he).2)]
  simp only [entriesOf, List.mem_map]
  constructor
  · rintro ⟨e, ⟨dp, hdp, rfl⟩, hd, hf⟩
    exact ⟨dp, hdp, hd, by simpa [Entry.failed, hres dp hdp] using hf⟩
  · rintro ⟨dp, hdp, hd, hf⟩
    exact ⟨_, ⟨dp, hdp, rfl⟩, hd, by simpa [Entry.failed, hres dp hdp] using hf⟩

/-- ★ `list_names_all`: `list` names every collected doctest — force-disabled or not — exactly
    once, in collection order, by its unique callname, runs nothing and exits with status 0 -/
theorem list_names_all (examples zero : List Entry) :
    doctestModule cmdList examples zero = .listed (examples.map (·.doc.uniqueCallname)) ∧
    (listNames examples).length = examples.length ∧
    (∀ e ∈ examples, e.doc.uniqueCallname ∈ listNames examples) ∧
    exitCode (doctestModule cmdList examples zero) = 0 := by
  refine ⟨by simp [doctestModule, listNames], by simp [listNames], ?_, (exit_zero_list_dump examples zero).1⟩
  intro e he
  exact List.mem_map_of_mem (f := fun e => e.doc.uniqueCallname) he

/-- ★ `unique_name_runs_exactly_one`: naming a collected doctest by its unique callname
    (`callname:num`) gathers exactly that doctest — whether or not it is force-disabled: `is_disabled`
    is not consulted — provided unique callnames are unique in the module and callnames contain no
    colon (both hold for every collected module: callnames are dotted identifiers, `num` counts
    within the callable). -/
theorem unique_name_runs_exactly_one (examples zero : List Entry) (e : Entry) (he : e ∈ examples)
    (hnd : (examples.map (·.doc.uniqueCallname)).Nodup)
    (hcolon : ∀ x ∈ examples, ':' ∉ x.doc.callname) :
    gather e.doc.uniqueCallname examples zero = [e] ∧
    (e.returns → ∃ rs, doctestModule e.doc.uniqueCallname examples zero = .ran rs ∧
        rs.ran = [e] ∧ rs.nTotal = 1) := by
  have hn : gatherNamed e.doc.uniqueCallname examples = [e] := by
    rw [gatherNamed_named (gatherAll_false_of_colon _ (colon_mem_uniqueCallname _)),
      ← filter_key_eq_singleton (fun x : Entry => x.doc.uniqueCallname) examples e he hnd]
    apply List.filter_congr
    intro x hx
    -- a unique callname is no bare callname of the module
    have h' : (e.doc.uniqueCallname == x.doc.callname) = false :=
      beq_eq_false_iff_ne.mpr fun heq => hcolon x hx (heq ▸ colon_mem_uniqueCallname _)
    rw [h', Bool.false_or, Bool.eq_iff_iff]
    simp only [beq_iff_eq]
    exact eq_comm
  have hg : gather e.doc.uniqueCallname examples zero = [e] := by
    rw [gather_of_ne_nil (by rw [hn]; nofun), hn]
  refine ⟨hg, fun hret => ⟨summaryOfReturns [e], ?_, rfl, rfl⟩⟩
  have hdm := doctestModule_of_returns (cmd := e.doc.uniqueCallname) (examples := examples) (zero := zero)
    (uniqueCallname_ne_of_no_colon _ _ cmd_no_colon.2.1) (uniqueCallname_ne_of_no_colon _ _ cmd_no_colon.2.2)
    (by rw [hg]; intro x hx; rw [List.mem_singleton.mp hx]; exact hret)
  rwa [hg] at hdm

/-- ★ `bare_callname_runs_all_of_it`: naming a BARE callname (no `:num`) gathers ALL doctests of that
    callable, in order, force-disabled or not; it is "exactly one" only for a callable with a
    single doctest -/
theorem bare_callname_runs_all_of_it (examples : List Entry) (c : Str)
    (hc : ':' ∉ c) (h1 : c ≠ cmdAll) (h2 : c ≠ cmdDump) :
    gatherNamed c examples = examples.filter (fun e => e.doc.callname == c) := by
  rw [gatherNamed_named (by simp [gatherAll, h1, h2])]
  apply List.filter_congr
  intro x _
  rw [Bool.eq_iff_iff, Bool.or_eq_true, beq_iff_eq, beq_iff_eq, beq_iff_eq]
  exact ⟨fun h => h.elim Eq.symm fun h => absurd h.symm (uniqueCallname_ne_of_no_colon _ _ hc), fun h => .inl h.symm⟩

section Examples
def dPass : Entry := ⟨⟨"f".toList, 0, ">>> print(1)\n1".toList⟩, .summary ⟨true, false, false⟩⟩
def dFail : Entry := ⟨⟨"f".toList, 1, ">>> print(1)\n2".toList⟩, .summary ⟨false, true, false⟩⟩
def dSkip : Entry := ⟨⟨"g".toList, 0, ">>> # xdoctest: +SKIP\n>>> print(1)".toList⟩, .summary ⟨false, false, true⟩⟩
def dDis : Entry := ⟨⟨"h".toList, 0, ">>>  #  disable_DOCTEST\n>>> print(1)\n2".toList⟩, .summary ⟨false, true, false⟩⟩
def exMod : List Entry := [dPass, dDis, dFail, dSkip]

example : isDisabled false dDis.doc.docsrc = true := by unfold dDis; decide_lits
example : isDisabled false dSkip.doc.docsrc = false := by unfold dSkip; decide_lits
example : doctestModule cmdAll exMod [] =
    .ran { nTotal := 3, nPassed := 1, nFailed := 1, nSkipped := 1, failed := [dFail], ran := [dPass, dFail, dSkip] } := by
  unfold exMod dFail dSkip dPass dDis; decide_lits
example : exitCode (doctestModule cmdAll exMod []) = 1 := by
  unfold exMod dFail dSkip dPass dDis; decide_lits
example : doctestModule cmdList exMod [] = .listed ["f:0".toList, "h:0".toList, "f:1".toList, "g:0".toList] := by
  unfold exMod dFail dSkip dPass dDis; decide_lits
example : (match doctestModule "h:0".toList exMod [] with | .ran rs => rs.ran | _ => []) = [dDis] := by
  unfold exMod dFail dSkip dPass dDis; decide_lits
example : (match doctestModule "f".toList exMod [] with | .ran rs => rs.ran | _ => []) = [dPass, dFail] := by
  unfold exMod dFail dSkip dPass dDis; decide_lits
example : (exMod.map (·.doc.uniqueCallname)).Nodup ∧ ∀ x ∈ exMod, ':' ∉ x.doc.callname := by decide +kernel
/-- the zero-arg fallback: a name that matches no doctest runs the function of that name -/
example : gather "k".toList exMod [⟨⟨"k".toList, 0, ">>> k()".toList⟩, .summary ⟨true, false, false⟩⟩] =
    [⟨⟨"k".toList, 0, ">>> k()".toList⟩, .summary ⟨true, false, false⟩⟩] := by decide +kernel

/-! doctests that fail BEFORE anything ran: compile-only error in the first executed part (after a
    skipped one), malformed directive, module raising on import — each is tallied as failed -/
def earlySem : Unit → Nat → RunPart → ExecResult × Unit := fun _ _ p =>
  (if p.part.execLines == ["return 5".toList] then .compileError (some 1) else .ok [] .notEvaled, ())
def earlySat : Str → Option Bool := fun _ => none     -- `foo:bar` : requirement evaluation raises
def pCompile : List RunPart :=
  [{ part := { execLines := ["print(1)".toList], wantLines := some ["x".toList] },
     directives := [{ name := "SKIP", inline := true }] },
   { part := { execLines := ["return 5".toList] } }]
def pDirective : List RunPart :=
  [{ part := { execLines := ["print(1)".toList] },
     directives := [{ name := "REQUIRES", args := ["foo:bar".toList] }] }]
def pPlain : List RunPart := [{ part := { execLines := ["print(1)".toList] } }]
def earlyMod : List Entry :=
  [⟨⟨"f".toList, 0, ">>> print(1)  # xdoctest: +SKIP\nx\n>>> return 5".toList⟩,
      resultOfRun (run earlySat earlySem (nativeCfg [] true) () pCompile)⟩,
   ⟨⟨"g".toList, 0, ">>> # xdoctest: +REQUIRES(foo:bar)\n>>> print(1)".toList⟩,
      resultOfRun (run earlySat earlySem (nativeCfg [] true) () pDirective)⟩,
   ⟨⟨"h".toList, 0, ">>> print(1)".toList⟩,
      resultOfRun (run earlySat earlySem (nativeCfg [] false) () pPlain)⟩]
example : (run earlySat earlySem (nativeCfg [] true) () pCompile).state.executed = [] ∧
    (run earlySat earlySem (nativeCfg [] true) () pCompile).state.logged = [] ∧
    (run earlySat earlySem (nativeCfg [] true) () pCompile).state.failure =
      some { kind := .compile, partIdx := 1, tbLineno := 1 } := by unfold earlySem pCompile; decide_lits
example : (run earlySat earlySem (nativeCfg [] true) () pDirective).state.failure.map (·.kind) = some .directive := by
  decide +kernel
example : (run earlySat earlySem (nativeCfg [] false) () pPlain).state.failure.map (·.kind) = some .importError := by
  unfold earlySem pPlain; decide_lits
theorem earlyMod_all : doctestModule cmdAll earlyMod [] = .ran ⟨3, 0, 3, 0, earlyMod, earlyMod⟩ := by
  unfold earlyMod pCompile earlySem pDirective pPlain; decide_lits
example : (match doctestModule cmdAll earlyMod [] with
    | .ran rs => (rs.nTotal, rs.nPassed, rs.nFailed, rs.nSkipped, rs.failed.length) | _ => (0, 0, 0, 0, 0)) = (3, 0, 3, 0, 3) := by
  rw [earlyMod_all]; rfl
example : exitCode (doctestModule cmdAll earlyMod []) = 1 := by rw [earlyMod_all]; rfl
end Examples

end Xdoc.C10
