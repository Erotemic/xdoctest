import XdocModel.Proofs.C14
import XdocModel.Lemmas.Lexer
/-!
# C14, continued — which failures of `parse` exist at all

The `assert prev_source is not None, 'impossible'` of `_group_labeled_lines` is indeed impossible on
the labeller's output; the exact list of (fail point, error) pairs `parse` can end with, a witness
docstring for each of them, and the proof that every other pair is impossible; the loops of
`balanced_intervals` and of the tokenizer model do not depend on their fuel.
-/
namespace Xdoc.C14
open Xdoc Py Parser CoreExamples Lexer

/-- ★ the grouping phase cannot fail on what the labeller returns: a `want` line is never the first
    line and never directly follows a `text` line (`labelLines_wantFollows`), so when pass 3 meets a
    `want` group a source group is waiting -/
theorem group_never_fails_after_label {ls : List Str} {out : List LLine} (h : labelLines ls = .ok out) :
    ∃ cs, groupLines out = .ok cs :=
  groupLines_ok (wantAfter_of_wantFollows [] out (labelLines_wantFollows h))

def errOfE {ε α : Type} : Except ε α → Option ε
  | .ok _ => none
  | .error e => some e

/-- the hypothesis is needed: on labelled lines the labeller cannot produce, the assertion fires -/
example : errOfE (groupLines [(.want, "w".toList)]) = some .assertion := by decide_lits
example : errOfE (groupLines [(.dsrc, ">>> x".toList), (.text, []), (.want, "w".toList)]) = some .assertion := by
  decide +kernel
/-- and the labeller does produce `want` lines (the statement is not about want-free texts only) -/
example : (labelLines [">>> x".toList, "w".toList]).toOption.map (·.map (·.1)) = some [.dsrc, .want] := by
  decide_lits

theorem chunksOf_error_is_label_error (docstr : Str) (e : ParseError) (h : chunksOf docstr = .error e) :
    labelLines (prepareLines docstr) = .error e := by
  rcases chunksOf_error_iff.mp h with h | ⟨out, hl, hg⟩
  · exact h
  · obtain ⟨cs, hcs⟩ := group_never_fails_after_label hl
    rw [hcs] at hg; cases hg

/-- ★ `parse` never reports the fail point `_group_labeled_lines` -/
theorem parse_never_fails_in_group (docstr : Str) (facts : List ChunkFacts) (e : ParseError) :
    parse docstr facts ≠ .error (.group, e) := by
  intro h
  rcases failpoint_is_phase docstr facts .group e h with ⟨h1, _⟩ | ⟨_, out, hl, hg⟩ | ⟨h1, _⟩
  · cases h1
  · obtain ⟨cs, hcs⟩ := group_never_fails_after_label hl
    rw [hcs] at hg; cases hg
  · cases h1

/-- the error classes of the packaging phase: `IncompleteParseError` (`balanced_intervals` of the
    comment hack), `SyntaxError` (`ast.parse`), `IndentationError` / a malformed directive (directive
    extraction), `IndexError` (`ps1_linenos[-1]` of an empty list). No `AssertionError`. -/
theorem package_error_classes (chunks : List Chunk) (facts : List ChunkFacts) (lineno : Nat) (e : ParseError)
    (h : packageGroups chunks facts lineno = .error e) :
    e = .incomplete ∨ e = .syntax ∨ e = .indentation ∨ e = .directive ∨ e = .index := by
  obtain ⟨src, want, _, ⟨_, hh⟩ | ⟨_, _, hp⟩⟩ := packageGroups_error h
  · exact Or.inl (hackComments_error hh)
  · exact Or.inr (packageChunk_error hp)

/-- every way `DoctestParser.parse` can fail: (message of `DoctestParseError`, original error) -/
def possibleFailures : List (FailPoint × ParseError) :=
  [(.label, .syntax), (.label, .assertion), (.label, .incomplete),
   (.package, .incomplete), (.package, .syntax), (.package, .indentation), (.package, .directive),
   (.package, .index)]

def impossibleFailures : List (FailPoint × ParseError) :=
  [(.label, .index), (.label, .indentation), (.label, .directive),
   (.group, .assertion), (.group, .syntax), (.group, .incomplete), (.group, .index),
   (.group, .indentation), (.group, .directive),
   (.package, .assertion)]

theorem failures_partition (fp : FailPoint) (e : ParseError) :
    ((fp, e) ∈ possibleFailures ∨ (fp, e) ∈ impossibleFailures) ∧
    ¬ ((fp, e) ∈ possibleFailures ∧ (fp, e) ∈ impossibleFailures) := by
  cases fp <;> cases e <;> decide

/-- ★ `parse` returns pieces, or fails with one of the eight pairs of `possibleFailures` -/
theorem parse_failpoints (docstr : Str) (facts : List ChunkFacts) :
    (∃ ps, parse docstr facts = .ok ps) ∨
    (∃ x, x ∈ possibleFailures ∧ parse docstr facts = .error x) := by
  rcases parse_total docstr facts with h | ⟨fp, e, h⟩
  · exact Or.inl h
  · refine Or.inr ⟨(fp, e), ?_, h⟩
    rcases failpoint_is_phase docstr facts fp e h with ⟨rfl, hl⟩ | ⟨rfl, out, hl, hg⟩ | ⟨rfl, cs, _, hp⟩
    · rcases label_error_classes _ _ hl with rfl | rfl | rfl <;> decide
    · exact absurd h (parse_never_fails_in_group docstr facts e)
    · rcases package_error_classes _ _ _ _ hp with rfl | rfl | rfl | rfl | rfl <;> decide

/-- ★ none of the ten other pairs is ever the outcome of `parse` -/
theorem parse_impossible_failures (docstr : Str) (facts : List ChunkFacts) (x : FailPoint × ParseError)
    (hx : x ∈ impossibleFailures) : parse docstr facts ≠ .error x := by
  intro h
  rcases parse_failpoints docstr facts with ⟨ps, hps⟩ | ⟨y, hy, hpy⟩
  · rw [hps] at h; cases h
  · rw [hpy] at h
    simp only [Except.error.injEq] at h; subst h
    obtain ⟨fp, e⟩ := y
    exact (failures_partition fp e).2 ⟨hy, hx⟩

/-- a witness docstring (and CPython facts for the chunk) for every element of `possibleFailures`; each
    was also run through the real `DoctestParser().parse` -/
def failureWitness : FailPoint × ParseError → Str × List ChunkFacts
  | (.label, .syntax)        => (">>> x = (1,\n  2)\n".toList, [])
  | (.label, .assertion)     => ("\u00a0\u00a0>>> x\n".toList, [])
  | (.label, .incomplete)    => (">>> x = (\n".toList, [])
  | (.package, .incomplete)  => (">>> (\n...   \n... )\n".toList, [])
  | (.package, .syntax)      => (">>> x = = 1\n".toList, [.syntaxError])
  | (.package, .indentation) => (">>> if x:\n...         a = 1 + \\\n...     2\n".toList, [.parsed [0] false])
  | (.package, .directive)   => (">>> 1 # xdoctest: +SKIP(\n".toList, [.parsed [0] true])
  | (.package, .index)       => (">>>\n... 1\nwant\n".toList, [.parsed [1] true])
  | _ => ([], [])

/-- ★ each of the eight pairs does occur -/
theorem possibleFailures_all_occur :
    ∀ x ∈ possibleFailures, errOf (parse (failureWitness x).1 (failureWitness x).2) = some x := by
  unfold failureWitness; decide_lits

/-- the inner `while` of `balanced_intervals` is a search from above: `findStart lines b n` is `find?` over the
    candidates `n-1, …, 0` for a start below `b` of a balanced interval ending at `b` -/
theorem findStart_eq_find (lines : List Str) (b n : Nat) :
    findStart lines b n =
      (List.range n).reverse.find? (fun a => decide (a < b) && isBalanced ((lines.drop a).take (b - a))) := by
  induction n with
  | zero => rfl
  | succ n ih =>
    rw [findStart, List.range_succ, List.reverse_append, List.reverse_singleton, List.singleton_append,
      List.find?_cons, ih]
    cases decide (n < b) && isBalanced ((lines.drop n).take (b - n)) <;> rfl

/-- ★ when it answers `some a`, `a` is the LARGEST start below `min n b` of a balanced interval -/
theorem findStart_some_spec {lines : List Str} {b n a : Nat} (h : findStart lines b n = some a) :
    a < n ∧ a < b ∧ isBalanced ((lines.drop a).take (b - a)) = true ∧
    ∀ a', a < a' → a' < n → a' < b → isBalanced ((lines.drop a').take (b - a')) = false := by
  rw [findStart_eq_find, List.find?_eq_some_iff_append] at h
  obtain ⟨hp, as, bs, he, has⟩ := h
  have hmem : ∀ x, x ∈ as ++ a :: bs ↔ x < n := fun x => by rw [← he]; simp
  -- the candidates come in decreasing order: what stands before `a` is larger, what stands after is smaller
  have hs : (as ++ a :: bs).Pairwise (· > ·) := he ▸ List.pairwise_reverse.mpr List.pairwise_lt_range
  have hbs : ∀ x ∈ bs, x < a := (List.pairwise_cons.mp (List.pairwise_append.mp hs).2.1).1
  simp only [Bool.and_eq_true, decide_eq_true_eq] at hp
  refine ⟨(hmem a).mp (by simp), hp.1, hp.2, fun a' h1 h2 h3 => ?_⟩
  rcases List.mem_append.mp ((hmem a').mpr h2) with h | h
  · simpa [h3] using has a' h
  · rcases List.mem_cons.mp h with rfl | h
    · omega
    · have := hbs a' h; omega

theorem findStart_none_iff (lines : List Str) (b n : Nat) :
    findStart lines b n = none ↔ ∀ a, a < n → a < b → isBalanced ((lines.drop a).take (b - a)) = false := by
  simp [findStart_eq_find]

/-- ★ the start the inner loop finds lies strictly below the interval end `b` — which is why the end
    decreases from one interval to the next and the outer loop's fuel suffices -/
theorem findStart_lt {lines : List Str} {b n a : Nat} (h : findStart lines b n = some a) : a < b :=
  (findStart_some_spec h).2.1

/-- the counter of the inner `while` of `balanced_intervals` (`a` moves up from `b - 1`) is not
    observable: starting the search anywhere at or above `b` gives the same answer -/
theorem findStart_counter_irrelevant (lines : List Str) (b n : Nat) (h : b ≤ n) :
    findStart lines b n = findStart lines b b := by
  obtain ⟨d, rfl⟩ := Nat.exists_eq_add_of_le h
  -- the candidates `b + d - 1, …, b` come first and fail the test `a < b`
  rw [findStart_eq_find, findStart_eq_find, List.range_add, List.reverse_append, List.find?_append,
    List.find?_eq_none.mpr, Option.none_or]
  intro a ha
  obtain ⟨x, -, rfl⟩ := List.mem_map.mp (List.mem_reverse.mp ha)
  rw [decide_eq_false (Nat.not_lt.mpr (Nat.le_add_right b x)), Bool.false_and]
  exact Bool.false_ne_true

/-- ★ the fuel of the outer `while b > 0` of `balanced_intervals` is not observable: any fuel of at
    least `b` gives the same answer, because `b` strictly decreases (so the loop of the code
    terminates, and `lines.length` is enough) -/
theorem intervalStarts_fuel (lines : List Str) (f1 f2 b : Nat) (h1 : b ≤ f1) (h2 : b ≤ f2) :
    intervalStarts lines f1 b = intervalStarts lines f2 b := by
  induction f1 generalizing f2 b with
  | zero =>
    have : b = 0 := by omega
    subst this
    cases f2 <;> simp [intervalStarts]
  | succ f1 ih =>
    cases b with
    | zero => cases f2 <;> simp [intervalStarts]
    | succ b =>
      cases f2 with
      | zero => omega
      | succ f2 =>
        simp only [intervalStarts]
        cases hf : findStart lines (b + 1) (b + 1) with
        | none => rfl
        | some a =>
          have := findStart_lt hf
          simp only
          rw [ih f2 a (by omega) (by omega)]

/-- ★ the measure of the outer `while b > 0` : the interval starts are strictly decreasing and below
    `b`, whatever the fuel — so the loop runs at most `b` times -/
theorem intervalStarts_decreasing {lines : List Str} {fuel b : Nat} {l : List Nat}
    (h : intervalStarts lines fuel b = some l) : (b :: l).Pairwise (· > ·) := by
  induction fuel generalizing b l with
  | zero => simp only [intervalStarts, Option.some.injEq] at h; subst h; simp
  | succ fuel ih =>
    cases b with
    | zero => simp only [intervalStarts, Option.some.injEq] at h; subst h; simp
    | succ b =>
      simp only [intervalStarts] at h
      cases hf : findStart lines (b + 1) (b + 1) with
      | none => simp [hf] at h
      | some a =>
        simp only [hf, Option.map_eq_some_iff] at h
        obtain ⟨l', hl', rfl⟩ := h
        have hlt := findStart_lt hf
        have hp := ih hl'
        refine List.pairwise_cons.mpr ⟨?_, hp⟩
        intro x hx
        rcases List.mem_cons.mp hx with rfl | hx
        · exact hlt
        · have := (List.pairwise_cons.mp hp).1 x hx
          omega

theorem pairwise_gt_length {b : Nat} {l : List Nat} (h : (b :: l).Pairwise (· > ·)) : l.length ≤ b := by
  induction l generalizing b with
  | nil => simp
  | cons a as ih =>
    have h1 := List.pairwise_cons.mp h
    have := ih h1.2
    have := h1.1 a (by simp)
    simp; omega

theorem intervalStarts_length_le {lines : List Str} {fuel b : Nat} {l : List Nat}
    (h : intervalStarts lines fuel b = some l) : l.length ≤ b :=
  pairwise_gt_length (intervalStarts_decreasing h)

/-- ★ `_hack_comment_statements` does not depend on the fuel of its `balanced_intervals` -/
theorem hackComments_fuel_free (execLines : List Str) (fuel : Nat) (h : execLines.length ≤ fuel) :
    hackComments execLines =
      (match intervalStarts execLines fuel execLines.length with
       | none => .error .incomplete
       | some starts =>
         .ok (execLines.zipIdx.map fun (l, i) =>
           if starts.contains i && startsWith ['#'] l then "_._ = None".toList else l)) := by
  unfold hackComments
  rw [intervalStarts_fuel execLines execLines.length fuel execLines.length (Nat.le_refl _) h]
  rfl

/-- `lexGo` with an explicit fuel for the scan of each line (the model uses the length of the line) -/
def lexGoF (fuel : Nat) : LexState → List Str → LexState × LexEnd
  | st, [] =>
    if st.openStr.isSome then (st, .eofString)
    else if st.paren == 0 then (st, .ok)
    else (st, .eofStatement)
  | st, l :: ls =>
    match st.openStr with
    | some q =>
      (match closeTriple q l with
       | some r => lexGoF fuel (applyScan { st with openStr := none } (scanCode fuel st.paren false r)) ls
       | none => lexGoF fuel st ls)
    | none =>
      if st.paren == 0 then
        let (col, rest) := measureIndent 0 l
        match rest with
        | [] => (st, .ok)
        | c :: _ =>
          if c == '#' then lexGoF fuel { st with comments := st.comments ++ [rest] } ls
          else
            let top := st.indents.headD 0
            if col > top then lexGoF fuel (applyScan { st with indents := col :: st.indents } (scanCode fuel 0 false rest)) ls
            else
              match dedentTo col st.indents with
              | none => (st, .badDedent)
              | some ind => lexGoF fuel (applyScan { st with indents := ind } (scanCode fuel 0 false rest)) ls
      else lexGoF fuel (applyScan st (scanCode fuel st.paren false l)) ls

/-- ★ the tokenizer model does not depend on the scan fuel: any fuel that covers the longest line
    gives the result of `lexGo` (which itself is a structural recursion over the lines: one line is
    consumed per iteration) -/
theorem lexGoF_eq (fuel : Nat) (st : LexState) (ls : List Str) (h : ∀ l ∈ ls, l.length ≤ fuel) :
    lexGoF fuel st ls = lexGo st ls := by
  induction ls generalizing st with
  | nil => rfl
  | cons l ls ih =>
    have ih' := fun st => ih st (fun x hx => h x (by simp [hx]))
    have hl : l.length ≤ fuel := h l (by simp)
    have hscan : ∀ (p : Int) (s : Str), s.length ≤ fuel → scanCode fuel p false s = scan p s :=
      fun p s hs => scanCode_fuel_irrelevant fuel p false s hs
    -- every string handed to the scanner is a suffix of the line
    have hc : ∀ q r, closeTriple q l = some r → scanCode fuel st.paren false r = scan st.paren r := fun q r hr =>
      hscan _ r (by have := closeTriple_length q l hr; omega)
    rw [lexGoF]
    conv => rhs; rw [lexGo]
    split
    · next q hq =>
      split
      · next r hr => rw [hc q r hr, ih']; simp only [hq, hr]
      · next hr => rw [ih']; simp only [hq, hr]
    · next hq =>
      split
      · next hp =>
        rcases hmi : measureIndent 0 l with ⟨col, rest⟩
        have hs : scanCode fuel 0 false rest = scan 0 rest :=
          hscan 0 rest (by have := measureIndent_length 0 l; rw [hmi] at this; exact Nat.le_trans this hl)
        simp only [hq, hs, ih']
        rfl
      · rw [hscan _ l hl, ih']; simp only [hq]

/-- `isBalanced` with an explicit scan fuel -/
def isBalancedF (fuel : Nat) (lines : List Str) : Bool :=
  (lexGoF fuel {} (lines.filter (!·.isEmpty))).2 == .ok

/-- ★ `is_balanced_statement` (model) does not depend on the scan fuel -/
theorem isBalanced_fuel_free (fuel : Nat) (lines : List Str) (h : ∀ l ∈ lines, l.length ≤ fuel) :
    isBalancedF fuel lines = isBalanced lines := by
  unfold isBalancedF isBalanced lex
  rw [lexGoF_eq]
  intro l hl
  exact h l (List.mem_filter.mp hl).1

/-- the labeller (with the inner `while` of `_complete_source` folded in) consumes exactly one input
    line per emitted line: no line is read twice, the loop ends with the text -/
theorem labelLines_length {ls : List Str} {out : List LLine} (h : labelLines ls = .ok out) :
    out.length = ls.length :=
  (labelLines_lines h).length_eq.symm

def exLines : List Str := ["(".toList, ")".toList, "x".toList]

example : findStart exLines 2 2 = some 0 := by unfold exLines; decide_lits
example : findStart exLines 2 7 = findStart exLines 2 2 := findStart_counter_irrelevant _ _ _ (by decide)
example : findStart ["(".toList] 1 1 = none := by decide_lits
example : intervalStarts exLines 3 3 = some [2, 0] := by unfold exLines; decide_lits
example : intervalStarts exLines 100 3 = some [2, 0] := by unfold exLines; decide_lits
/-- too little fuel IS observable (so the hypothesis of `intervalStarts_fuel` is needed): the model
    always passes `lines.length` -/
example : intervalStarts exLines 1 3 = some [2] := by decide +kernel
/-- same for the scan fuel: with fuel 1 the closing bracket of `(x)` is not seen -/
example : (lexGoF 1 {} ["(x)".toList]).2 = .eofStatement ∧ (lexGo {} ["(x)".toList]).2 = .ok := by decide_lits
example : isBalancedF 3 ["(x)".toList] = true := by decide_lits
example : (hackComments ["# c".toList, "x".toList]).toOption = some ["_._ = None".toList, "x".toList] := by
  decide_lits
example : errOfE (chunksOf ">>> x = (\n".toList) = some .incomplete := by decide_lits
example : (chunksOf "t\n>>> x\nw\n".toList).toOption =
    some [.text ["t".toList], .code [">>> x".toList] ["w".toList]] := by decide_lits

end Xdoc.C14
