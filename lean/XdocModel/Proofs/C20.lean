import XdocModel.Stdlib
import XdocModel.Lemmas.Stdlib
import XdocModel.Lemmas.StdMarker
/-!
# C20 — Backwards compatible: what passes under the standard doctest module passes here

Two executable models side by side: `Std.stdCheck` (CPython's `OutputChecker.check_output` for the
flags a standard doctest can select through the property's directives) and `checkOutput` (xdoctest).
`Std.corrFlags sf` is the xdoctest runtime state of a doctest that carries the standard directives
`sf`: the regenerated defaults with ELLIPSIS / NORMALIZE_WHITESPACE / IGNORE_EXCEPTION_DETAIL
switched on when the directive is present.
-/
namespace Xdoc.C20
open Xdoc Py Re
open _root_.Xdoc.Std

/-- ★ a standard `_ellipsis_match` is an xdoctest `_ellipsis_match`, for ALL strings.
    xdoctest splits the want on `\s*\.\.\.\s*`, the standard module on `...` literally; the
    whitespace xdoctest strips from the pieces is handed to the wildcards (`Scattered`). -/
theorem std_ellipsis_implies_xdoc_ellipsis (got want : Str) (h : stdEllipsis got want = true) :
    ellipsisMatch got want = true :=
  stdEllipsis_implies_ellipsisMatch got want h

/-- ★ the pieces correspond one to one: each xdoctest piece is the standard piece minus text on
    its left and right (`PRel`), whatever the want -/
theorem pieces_correspond (want : Str) : PRel [] (splitDots want) (splitEllipsis want) :=
  splitDots_splitEllipsis_rel_nil want

theorem std_ellipsis_implies_checkMatch (f : Flags) (got want : Str) (hf : f.ellipsis = true)
    (h : got = want ∨ stdEllipsis got want = true) : checkMatch f got want = true := by
  unfold checkMatch
  rcases h with rfl | h
  · simp
  · simp [hf, std_ellipsis_implies_xdoc_ellipsis got want h]

theorem corrFlags_defaults (sf : StdFlags) :
    (corrFlags sf).ellipsis = true ∧ (corrFlags sf).normWs = true ∧
      (corrFlags sf).ignWs = false ∧ (corrFlags sf).noBlank = false := by
  have : defaultFlags.ellipsis = true ∧ defaultFlags.normWs = true ∧
      defaultFlags.ignWs = false ∧ defaultFlags.noBlank = false := by decide +kernel
  simp [corrFlags, this]

/-- ★ every standard directive is honoured: the corresponding xdoctest flag is on -/
theorem corrFlags_dominates (sf : StdFlags) :
    (sf.ellipsis = true → (corrFlags sf).ellipsis = true) ∧
    (sf.normWs = true → (corrFlags sf).normWs = true) ∧
    (sf.ignDetail = true → (corrFlags sf).ignDetail = true) := by
  refine ⟨fun h => ?_, fun h => ?_, fun h => ?_⟩ <;> simp [corrFlags, h]

def isAscii (s : Str) : Bool := s.all fun c => decide (c.toNat < 128)

/-- what xdoctest's always-on removals must leave alone (each excluded class is witnessed below) -/
structure XGuards (s : Str) : Prop where
  /-- no ANSI CSI sequence (K-C20-f) -/
  ansi : stripAnsi s = s
  /-- no `u'` / `b'` string-prefix letters (K-C20-g) -/
  pu : removePrefixes 'u' 'U' s = s
  pb : removePrefixes 'b' 'B' s = s
  /-- no carriage return (K-C20-h) -/
  cr : '\r' ∉ s

structure Guards (got want : Str) : Prop where
  /-- the standard module compares backslash-escaped texts (K-C20-d) -/
  asciiGot : isAscii got = true
  asciiWant : isAscii want = true
  /-- `True`/`1`, `False`/`0` (K-C20-e) -/
  notTrueFor1 : trueFor1 got want = false
  /-- the literal marker is not part of the output (K-C20-b) -/
  noMarkerInGot : contains marker got = false
  xGot : XGuards got
  xWant : XGuards want

def stdlib_match_implies_xdoc_match_statement : Prop :=
  ∀ (sf : StdFlags) (got want : Str), Guards got want →
    stdCheck sf got want = true → checkOutput (corrFlags sf) got want = true

/-- the same without any guard (FALSE of the unchanged code: `unguarded_false`) -/
def stdlib_match_implies_xdoc_match_unguarded : Prop :=
  ∀ (sf : StdFlags) (got want : Str),
    stdCheck sf got want = true → checkOutput (corrFlags sf) got want = true

/-- ★ identical texts pass under both, whatever they contain (no guard) -/
theorem identical_passes (sf : StdFlags) (s : Str) :
    stdCheck sf s s = true ∧ checkOutput (corrFlags sf) s s = true :=
  ⟨(stdCheck_iff ..).mpr (.inl rfl), checkOutput_refl _ _⟩

theorem norm1_eq_collapse (f : Flags) (hn : f.normWs = true) (hi : f.ignWs = false) (b : Bool) {s : Str}
    (hx : XGuards s) :
    norm1 f b s = collapse (if (b && !f.noBlank) = true then removeBlanklineMarker s else s) := by
  have key : ∀ s' : Str, '\r' ∉ s' →
      collapse (eraseCrLines (rstrip (stripTrailingWs s'))) = collapse s' := by
    intro s' h
    rw [eraseCrLines_id fun hm => h (mem_of_mem_rstrip_stripTrailingWs hm),
      collapse_rstrip_stripTrailingWs]
  simp only [norm1, wsNorm, baseNorm, hn, hi, Bool.true_or, ↓reduceIte, Bool.false_eq_true,
    hx.ansi, hx.pu, hx.pb]
  apply key
  split
  · intro hmem
    rcases removeBlanklineMarker_mem s _ hmem with h | h
    · exact hx.cr h
    · cases h
  · exact hx.cr

theorem checkMatch_normalize_of_eq (f : Flags) (g w : Str) (h : norm1 f false g = norm1 f true w) :
    checkMatch f (normalize f g w).1 (normalize f g w).2 = true :=
  checkMatch_normalize_of_match f g w (by rw [h]; exact checkMatch_refl f _)

theorem xdoc_accepts (sf : StdFlags) {g w G' W' : Str} (hxg : XGuards g) (hxw : XGuards w)
    (hcg : collapse g = G') (hcw : collapse (removeBlanklineMarker w) = W')
    (hc : G' = W' ∨ ellipsisMatch G' W' = true) : checkOutput (corrFlags sf) g w = true := by
  obtain ⟨he, hn, hi, hb⟩ := corrFlags_defaults sf
  rw [checkOutput_iff]
  -- the quote step of NORMALIZE_REPR leaves a matching pair alone
  refine Or.inr (Or.inr (checkMatch_normalize_of_match _ _ _ ?_))
  rw [norm1_eq_collapse _ hn hi false hxg, norm1_eq_collapse _ hn hi true hxw]
  simp only [hb, Bool.false_and, Bool.false_eq_true, ↓reduceIte, Bool.not_false, Bool.and_self,
    hcg, hcw]
  rcases hc with hc | hc
  · simp [checkMatch, hc]
  · simp [checkMatch, he, hc]

/-- what a standard match means on the collapsed texts. The ELLIPSIS step: standard `_ellipsis_match`
    ⇒ xdoctest `_ellipsis_match` on the same texts (`std_ellipsis_implies_xdoc_ellipsis`) ⇒ on the
    collapsed texts (`Re.ellipsisMatch_collapse`). -/
theorem std_collapse_match (sf : StdFlags) (G W : Str)
    (hG : isAscii G = true) (hW : isAscii W = true)
    (hT : trueFor1 G W = false) (h : stdCheck sf G W = true) :
    G = W ∨ collapse G = collapse (stdBlankWant W) ∨
      ellipsisMatch (collapse G) (collapse (stdBlankWant W)) = true := by
  have hg : collapse (stdBlankGot G) = collapse G := by
    rw [collapse_eq_run, run_stdBlankGot, collapse_eq_run]
  rw [stdCheck_iff, toAscii_ascii G hG, toAscii_ascii W hW, hT] at h
  rw [← hg]
  -- the tests of `check_output` in order: identical, True-for-1 (excluded), identical after the
  -- marker substitutions, NORMALIZE_WHITESPACE, ELLIPSIS (on the collapsed texts or not)
  rcases h with h | h | h | ⟨_, h⟩ | ⟨_, h⟩
  · exact .inl h
  · cases h
  · exact .inr (.inl (by rw [h]))
  · exact .inr (.inl h)
  · refine .inr (.inr ?_)
    have := std_ellipsis_implies_xdoc_ellipsis _ _ h
    split at this
    · exact this
    · exact ellipsisMatch_collapse this

/-- ◐ `G`/`W` are the texts the standard checker compared, `Gx`/`Wx` the texts xdoctest compares for
    the same example; they may differ by whitespace (xdoctest's want has no final newline; in `eval`
    mode its got is the bare `repr`). -/
theorem stdlib_match_implies_xdoc_match_core (sf : StdFlags) (G W Gx Wx : Str)
    (hG : isAscii G = true) (hW : isAscii W = true) (hT : trueFor1 G W = false)
    (hM : contains marker W = false) (hMx : contains marker Wx = false)
    (hxg : XGuards Gx) (hxw : XGuards Wx)
    (hcg : collapse Gx = collapse G) (hcw : collapse Wx = collapse W)
    (h : stdCheck sf G W = true) : checkOutput (corrFlags sf) Gx Wx = true := by
  refine xdoc_accepts sf hxg hxw hcg (by rw [removeBlanklineMarker_id hMx, hcw]) ?_
  have := std_collapse_match sf G W hG hW hT h
  rw [stdBlankWant_id hM] at this
  rcases this with rfl | hc
  · exact Or.inl rfl
  · exact hc

/-- ★ a marker the standard substitution leaves in the want (an occurrence that is not a marker line)
    has to be matched literally: a got without the marker cannot pass the standard check, unless the
    texts are identical -/
theorem std_rejects_leftover_marker (sf : StdFlags) (G W : Str)
    (hG : isAscii G = true) (hW : isAscii W = true) (hT : trueFor1 G W = false)
    (hmG : contains marker G = false) (hL : contains marker (stdBlankWant W) = true) (hne : G ≠ W) :
    stdCheck sf G W = false := by
  cases h : stdCheck sf G W with
  | false => rfl
  | true =>
    exfalso
    -- the marker occurs in the collapsed want and not in the collapsed got
    rw [← contains_collapse fun c hc => (marker_plain c hc).1] at hmG hL
    rcases std_collapse_match sf G W hG hW hT h with h1 | h2 | h3
    · exact hne h1
    · rw [h2, hL] at hmG; cases hmG
    · rw [ellipsisMatch_contains marker_plain h3 hL] at hmG; cases hmG

def stdlib_match_implies_xdoc_match_marker_statement : Prop :=
  ∀ (sf : StdFlags) (got want : Str), Guards got want → contains marker want = true →
    stdCheck sf got want = true → checkOutput (corrFlags sf) got want = true

/-- ★ the guarded statement of C20 at checker level, for ALL
    got/want and all four flag settings (none, ELLIPSIS, NORMALIZE_WHITESPACE, both), wants with or
    without `<BLANKLINE>`: whatever `doctest.OutputChecker.check_output` accepts, xdoctest's
    `check_output` accepts under the runtime state of a standard doctest. No guard beyond `Guards`
    is needed for the marker: a marker occurrence that is not a marker line survives the standard
    substitution and then forces the marker into got (`std_rejects_leftover_marker`), which
    `Guards.noMarkerInGot` excludes; marker lines are handled by `collapse_removeMarker_eq`. -/
theorem stdlib_match_implies_xdoc_match : stdlib_match_implies_xdoc_match_statement := by
  intro sf got want hg hs
  by_cases hne : got = want
  · rw [hne]; exact checkOutput_refl _ _
  have hc := (std_collapse_match sf got want hg.asciiGot hg.asciiWant hg.notTrueFor1 hs).resolve_left hne
  cases hm : contains marker (stdBlankWant want)
  · exact xdoc_accepts sf hg.xGot hg.xWant rfl (collapse_removeMarker_eq hm) hc
  · rw [std_rejects_leftover_marker sf got want hg.asciiGot hg.asciiWant hg.notTrueFor1
      hg.noMarkerInGot hm hne] at hs
    cases hs

/-- ◐ the special case of wants without the marker (the hypothesis `hM` is not needed) -/
theorem stdlib_match_implies_xdoc_match_partial (sf : StdFlags) (got want : Str)
    (hg : Guards got want) (hM : contains marker want = false)
    (h : stdCheck sf got want = true) : checkOutput (corrFlags sf) got want = true :=
  stdlib_match_implies_xdoc_match sf got want hg h

theorem stdlib_match_implies_xdoc_match_marker : stdlib_match_implies_xdoc_match_marker_statement :=
  fun sf got want hg _ hs => stdlib_match_implies_xdoc_match sf got want hg hs

/-- ◐ end-to-end form for `exec`/`single` parts: the standard want ends with the newline the
    parser adds, xdoctest's want is the same text without it; got is the captured stdout -/
theorem stdlib_match_implies_xdoc_match_partial_stdout (sf : StdFlags) (got want : Str)
    (hG : isAscii got = true) (hW : isAscii (want ++ ['\n']) = true)
    (hT : trueFor1 got (want ++ ['\n']) = false)
    (hM : contains marker (want ++ ['\n']) = false) (hMx : contains marker want = false)
    (hxg : XGuards got) (hxw : XGuards want)
    (h : stdCheck sf got (want ++ ['\n']) = true) : checkOutput (corrFlags sf) got want = true := by
  refine stdlib_match_implies_xdoc_match_core sf got (want ++ ['\n']) got want hG hW hT hM hMx
    hxg hxw rfl (collapse_append_nl want).symm h

/-- ◐ end-to-end form for `eval` parts that print nothing: the REPL shows `repr + '\n'`,
    xdoctest compares the bare `repr` -/
theorem stdlib_match_implies_xdoc_match_partial_value (sf : StdFlags) (r want : Str)
    (hG : isAscii (replGot [] (.value r)) = true) (hW : isAscii (want ++ ['\n']) = true)
    (hT : trueFor1 (replGot [] (.value r)) (want ++ ['\n']) = false)
    (hM : contains marker (want ++ ['\n']) = false) (hMx : contains marker want = false)
    (hxg : XGuards r) (hxw : XGuards want)
    (h : stdCheck sf (replGot [] (.value r)) (want ++ ['\n']) = true) :
    checkGotVsWant (corrFlags sf) want [] (.value r) = .ok := by
  have := stdlib_match_implies_xdoc_match_core sf (replGot [] (.value r)) (want ++ ['\n']) r want
    hG hW hT hM hMx hxg hxw (collapse_append_nl r).symm (collapse_append_nl want).symm h
  simp [checkGotVsWant, this]

/-! One witness for each excluded class; each is replayed on the real code by the harness. -/

private def f00 : StdFlags := { ellipsis := false, normWs := false }
private def fNW : StdFlags := { ellipsis := false, normWs := true }
private def fEL : StdFlags := { ellipsis := true, normWs := false }

/-- K-C20-a : an example that prints AND returns a non-None value. The REPL shows stdout followed
    by the echo, the standard module accepts their concatenation; xdoctest's `eval` mode compares
    stdout OR the value, never both. -/
theorem witness_K_C20_a :
    stdCheck f00 (replGot "in f 3\n".toList (.value "5".toList)) "in f 3\n5\n".toList = true ∧
    checkGotVsWant (corrFlags f00) "in f 3\n5".toList "in f 3\n".toList (.value "5".toList) = .differs := by
  decide_lits

/-- K-C20-b : the output contains the literal marker. End-to-end shape (`print('<BLANKLINE>')`):
    the standard texts are identical, xdoctest's want has lost its final newline, is not identical
    to got any more, and the marker is removed from the want only. -/
theorem witness_K_C20_b :
    stdCheck f00 "<BLANKLINE>\n".toList "<BLANKLINE>\n".toList = true ∧
    checkOutput (corrFlags f00) "<BLANKLINE>\n".toList "<BLANKLINE>".toList = false := by
  decide_lits

/-- K-C20-b at checker level (same texts on both sides), NORMALIZE_WHITESPACE -/
theorem witness_K_C20_b_checker :
    stdCheck fNW "<BLANKLINE>".toList " <BLANKLINE>".toList = true ∧
    checkOutput (corrFlags fNW) "<BLANKLINE>".toList " <BLANKLINE>".toList = false := by
  decide_lits

/-- K-C20-d : the standard module folds both texts to backslash-escaped ASCII before comparing -/
theorem witness_K_C20_d :
    stdCheck f00 "é".toList "\\xe9".toList = true ∧
    checkOutput (corrFlags f00) "é".toList "\\xe9".toList = false := by
  decide_lits

/-- K-C20-e : `True` for `1` (DONT_ACCEPT_TRUE_FOR_1 is off by default in the standard module) -/
theorem witness_K_C20_e :
    stdCheck f00 "True\n".toList "1\n".toList = true ∧
    checkOutput (corrFlags f00) "True\n".toList "1\n".toList = false := by
  decide_lits

/-- K-C20-f : xdoctest deletes ANSI CSI sequences from got; a want that spells part of one literally
    (here followed by an ellipsis) no longer finds it -/
theorem witness_K_C20_f :
    stdCheck fEL "\x1b[0m".toList "\x1b[...".toList = true ∧
    checkOutput (corrFlags fEL) "\x1b[0m".toList "\x1b[...".toList = false := by
  decide_lits

/-- K-C20-g : xdoctest deletes the `u`/`b` string-prefix letter in front of a quote -/
theorem witness_K_C20_g :
    stdCheck fEL "u'".toList "u...".toList = true ∧
    checkOutput (corrFlags fEL) "u'".toList "u...".toList = false := by
  decide_lits

/-- K-C20-h : xdoctest erases output lines that end in a bare carriage return -/
theorem witness_K_C20_h :
    stdCheck fNW "a\ra".toList "a a".toList = true ∧
    checkOutput (corrFlags fNW) "a\ra".toList "a a".toList = false := by
  decide_lits

/-- K-C20-k : only when the USER switches NORMALIZE_WHITESPACE off. The standard checker empties every
    line of got made of whitespace other than newline (form feed here); xdoctest strips blanks and tabs
    only. With xdoctest's default options the whitespace collapsing hides the difference (third part). -/
theorem witness_K_C20_k :
    stdCheck f00 "\x0c\n\"".toList "\n\"".toList = true ∧
    checkOutput { corrFlags f00 with normWs := false } "\x0c\n\"".toList "\n\"".toList = false ∧
    checkOutput (corrFlags f00) "\x0c\n\"".toList "\n\"".toList = true := by
  decide_lits

/-- the unguarded sentence is false of the model (and of the code: the witnesses are replayed) -/
theorem unguarded_false : ¬ stdlib_match_implies_xdoc_match_unguarded := by
  intro h
  have w := witness_K_C20_e
  rw [h f00 _ _ w.1] at w
  exact absurd w.2 (by simp)

/-- the True-for-1 guard: some pair the standard checker accepts and xdoctest rejects has
    `trueFor1 = true` (K-C20-e) -/
theorem guard_true_for_1_needed :
    ¬ (∀ sf got want, stdCheck sf got want = true → checkOutput (corrFlags sf) got want = true ∨
        trueFor1 got want = false) := by
  intro h
  have w := witness_K_C20_e
  rcases h f00 _ _ w.1 with h | h
  · rw [h] at w; exact absurd w.2 (by simp)
  · revert h; decide +kernel

/-- ★ same regular expression, `match` there and `search` here: a want the standard parser
    recognises as an expected traceback is recognised by xdoctest with the same message -/
theorem exc_extract_agrees (b m : Str) (h : stdExcMatch b = some m) : excSearch b = some m := by
  unfold stdExcMatch at h
  unfold excSearch
  cases hs : splitOn '\n' b with
  | nil => simp [hs] at h
  | cons l ls =>
    simp only [hs] at h
    split at h
    · rename_i hl
      simp only [excSearchLines, hl, ↓reduceIte, h]
    · cases h

/-- ★ the detail stripping is the same function (the two Python functions are statement for
    statement identical; both are compared with this model function by the harness) -/
theorem strip_details_agree (msg : Str) : stdStripDetails msg = stripExceptionDetails msg := rfl

/-- ★ same last-line rule, same detail stripping. `codeblock want` is the dedented traceback want as
    xdoctest sees it; the standard parser hands the same block WITH its final newline to
    `_EXCEPTION_RE.match`. If the standard runner accepts the raised exception, xdoctest's
    `check_exception` does — given the output-level implication for the two pairs of texts that are
    actually compared (`himp1`: the messages, end-to-end form; `himp2`: the stripped names) and a
    non-empty expected exception name (xdoctest refuses an empty stripped want (repair 6b19a71), see
    `witness_exc_empty_name`). -/
theorem exc_check_agrees_pair (sf : StdFlags) (excGot want : Str)
    (himp1 : ∀ m, stdExcMatch (codeblock want) = some m →
      stdCheck sf excGot (m ++ ['\n']) = true → checkOutput (corrFlags sf) excGot m = true)
    (himp2 : ∀ m, stdExcMatch (codeblock want) = some m →
      stdCheck sf (stripExceptionDetails excGot) (stripExceptionDetails m) = true →
      checkOutput (corrFlags sf) (stripExceptionDetails excGot) (stripExceptionDetails m) = true)
    (hne : ∀ m, stdExcMatch (codeblock want) = some m → stripExceptionDetails m ≠ [])
    (h : stdExcCheck sf excGot (codeblock want ++ ['\n']) = some true) :
    checkException (corrFlags sf) excGot want = some true := by
  -- both sides find the same message `m` (`exc_extract_agrees`); the standard runner then compares the
  -- message, or with IGNORE_EXCEPTION_DETAIL the stripped names: `himp1` resp. `himp2` carry each over
  unfold stdExcCheck at h
  rw [stdExcMatch_append_nl] at h
  cases hm : stdExcMatch (codeblock want) with
  | none => simp [hm] at h
  | some m =>
    simp only [hm, Option.map_some, Option.some.injEq, Bool.or_eq_true, Bool.and_eq_true,
      stdStripDetails, stripExceptionDetails_append_nl] at h
    refine (checkException_iff _ _ _).mpr ⟨m, exc_extract_agrees _ _ hm, h.imp (himp1 m hm) ?_⟩
    exact fun ⟨hd, h⟩ => ⟨by simp [corrFlags, hd], hne m hm, himp2 m hm h⟩

/-- ★ `exc_check_agrees_pair` with both implications asked of ALL texts. Asked of all texts `himp2` is
    the unguarded sentence, which holds for no `sf` (`unguarded_false` for one): the usable form is
    `exc_check_agrees_pair`. -/
theorem exc_check_agrees (sf : StdFlags) (excGot want : Str)
    (himp1 : ∀ m, stdCheck sf excGot (m ++ ['\n']) = true → checkOutput (corrFlags sf) excGot m = true)
    (himp2 : ∀ g w, stdCheck sf g w = true → checkOutput (corrFlags sf) g w = true)
    (hne : ∀ m, stdExcMatch (codeblock want) = some m → stripExceptionDetails m ≠ [])
    (h : stdExcCheck sf excGot (codeblock want ++ ['\n']) = some true) :
    checkException (corrFlags sf) excGot want = some true :=
  exc_check_agrees_pair sf excGot want (fun m _ => himp1 m) (fun _ _ => himp2 _ _) hne h

/-- the hypothesis `hne` is needed: with an expected name that strips to nothing the standard
    module can still say yes (both sides strip to the empty text) -/
theorem witness_exc_empty_name :
    stdExcCheck { ellipsis := false, normWs := false, ignDetail := true } "a.: x".toList
      "Traceback (most recent call last):\nb.: y".toList = some true ∧
    checkException (corrFlags { ellipsis := false, normWs := false, ignDetail := true }) "a.: x".toList
      "Traceback (most recent call last):\nb.: y".toList = some false := by
  decide_lits

/-- ★ `# doctest: +X` is parsed like `# xdoctest: +X`: `DIRECTIVE_RE` yields the same option text -/
theorem doctest_prefix_accepted (opts : Str) :
    directiveReMatch ("doctest:".toList ++ opts) = directiveReMatch ("xdoctest:".toList ++ opts) := by
  simp [directiveReMatch, lowerAscii, dropPrefix?]

/-- ★ and so the same directive comes out, for every option text and both placements -/
theorem doctest_prefix_same_directive (opts : Str) (inline : Bool) :
    (directiveReMatch ("doctest:".toList ++ opts)).bind (parseDirectiveOptstr · inline) =
    (directiveReMatch ("xdoctest:".toList ++ opts)).bind (parseDirectiveOptstr · inline) := by
  rw [doctest_prefix_accepted]

example : stdEllipsis "a  xb".toList "a ...b".toList = true := by decide_lits
example : ellipsisMatch "a  xb".toList "a ...b".toList = true := by decide_lits
example : splitDots "a ... b....c".toList = ["a ".toList, " b".toList, ".c".toList] := by decide_lits
example : splitEllipsis "a ... b....c".toList = ["a".toList, "b".toList, ".c".toList] := by decide_lits
-- a pair satisfying every hypothesis of the partial theorem, matched only through the
-- whitespace-only-line rule and NORMALIZE_WHITESPACE
example : stdCheck fNW "a\n \nb  c\n".toList "a\n\nb c\n".toList = true := by decide_lits
example : isAscii "a\n \nb  c\n".toList = true ∧ contains marker "a\n\nb c\n".toList = false ∧
    trueFor1 "a\n \nb  c\n".toList "a\n\nb c\n".toList = false := by decide_lits
example : stripAnsi "a\n \nb  c\n".toList = "a\n \nb  c\n".toList ∧
    removePrefixes 'u' 'U' "a\n \nb  c\n".toList = "a\n \nb  c\n".toList := by decide_lits
example : checkOutput (corrFlags fNW) "a\n \nb  c\n".toList "a\n\nb c\n".toList = true := by decide_lits
-- an ELLIPSIS instance of the partial theorem: all hypotheses hold, matched only through the wildcard
example : stdCheck fEL "x = 12  s\n".toList "x = ... s\n".toList = true ∧
    contains marker "x = ... s\n".toList = false ∧ isAscii "x = 12  s\n".toList = true := by decide_lits
-- a quoted want with an ellipsis: the quote step leaves the matching pair alone
example : checkOutput (corrFlags fEL) "'a b c'".toList "'a ... c'".toList = true := by decide_lits
-- an instance of the full theorem with markers: three marker lines (one followed by blanks), matched through them
example : stdCheck f00 "a\n\n\nb\n\nc\n".toList "a\n<BLANKLINE>\n<BLANKLINE>  \nb\n<BLANKLINE>\nc\n".toList = true ∧
    contains marker (stdBlankWant "a\n<BLANKLINE>\n<BLANKLINE>  \nb\n<BLANKLINE>\nc\n".toList) = false ∧
    contains marker "a\n\n\nb\n\nc\n".toList = false := by decide_lits
-- a marker that is not a marker line is left behind by the standard substitution
example : contains marker (stdBlankWant "a <BLANKLINE>\n".toList) = true := by decide_lits
example : stdCheck f00 "a\n\nb\n".toList "a\n<BLANKLINE>\nb\n".toList = true ∧
    checkOutput (corrFlags f00) "a\n\nb\n".toList "a\n<BLANKLINE>\nb".toList = true := by decide_lits
example : stdCheck fEL "x = 12 s\n".toList "x = ... s\n".toList = true ∧
    checkOutput (corrFlags fEL) "x = 12 s\n".toList "x = ... s".toList = true := by decide_lits
example : stdExcMatch "Traceback (most recent call last):\n  ...\nValueError: m\n".toList
    = some "ValueError: m\n".toList := by decide_lits
example : stdExcCheck f00 "ValueError: m\n".toList
    (codeblock "Traceback (most recent call last):\n  ...\nValueError: m\n".toList ++ ['\n']) = some true := by
  decide_lits
example : directiveReMatch "doctest: +ELLIPSIS".toList = some "+ELLIPSIS".toList := by decide_lits
example : (directiveReMatch "doctest: +NORMALIZE_WHITESPACE".toList).bind (parseDirectiveOptstr · true)
    = some { name := "NORMALIZE_WHITESPACE", positive := true, args := [], inline := true } := by
  decide_lits

end Xdoc.C20
