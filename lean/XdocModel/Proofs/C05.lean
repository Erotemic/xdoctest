import XdocModel.Checker
import XdocModel.Lemmas.Checker
import XdocModel.Lemmas.Collapse
import XdocModel.Lemmas.NormRepr
/-!
# C05 — Output matching equals the documented relation for every flag combination

`Flags` fields: `ellipsis normWs ignWs normRepr noBlank ignDetail` (= ELLIPSIS, NORMALIZE_WHITESPACE,
IGNORE_WHITESPACE, NORMALIZE_REPR, DONT_ACCEPT_BLANKLINE, IGNORE_EXCEPTION_DETAIL; the last plays no part here).
-/
namespace Xdoc.C05
open Xdoc Py Re

/-- ★ identical texts always match -/
theorem checkOutput_refl (f : Flags) (s : Str) : checkOutput f s s = true :=
  Xdoc.checkOutput_refl f s

/-- ★ an empty want matches everything (code without a want is never compared) -/
theorem checkOutput_empty_want (f : Flags) (g : Str) : checkOutput f g [] = true := by
  simp [checkOutput]

def strictFlags : Flags :=
  { ellipsis := false, normWs := false, ignWs := false, normRepr := false, noBlank := true }

/-- ★ with every leniency switched off the comparison is exact up to the always-on removals
    (ANSI codes, string-prefix letters, per-line trailing blanks, trailing whitespace, lines
    erased by a bare carriage return): equality of `baseNorm false`. -/
theorem strict_is_base_equality (g w : Str) :
    checkOutput strictFlags g w = true ↔ w = [] ∨ g = w ∨ baseNorm false g = baseNorm false w := by
  rw [checkOutput_iff]
  simp [normalize, norm1, wsNorm, strictFlags, checkMatch]

/-- ★ no false pass: when `...` cannot act as a wildcard (ELLIPSIS off, or
    the normalised want has no `...`), a match implies that got and want have the same
    non-whitespace characters after the documented removals — up to one pair of identical
    surrounding quotes on either side, and that only under NORMALIZE_REPR. -/
theorem content_preserved (f : Flags) (g w : Str)
    (hW : f.ellipsis = false ∨ contains dots (norm1 f true w) = false)
    (h : checkOutput f g w = true) :
    w = [] ∨ g = w ∨
      ∃ a b, UnqRel f.normRepr (deleteWs (baseNorm false g)) a ∧
             UnqRel f.normRepr (deleteWs (baseNorm (!f.noBlank) w)) b ∧ a = b := by
  refine ((checkOutput_iff f g w).mp h).imp_right (Or.imp_right fun h => ?_)
  -- the two normalised texts are the per-string normal forms up to `UnqRel`, and equal
  obtain ⟨hg, hw⟩ := normalize_rel f g w
  have heq := eq_of_checkMatch_no_wildcard (hW.imp_right (not_contains_of_infix hw.infix)) h
  refine ⟨_, _, ?_, ?_, congrArg deleteWs heq⟩
  · simpa [norm1, deleteWs_wsNorm] using hg.deleteWs
  · simpa [norm1, deleteWs_wsNorm] using hw.deleteWs

/-! Monotonicity: switching a leniency on never turns a match into a mismatch. One theorem per switch, for all got/want and all settings of the other switches that satisfy the
stated guard. The unguarded sentence is **false** of the unchanged code: see the witnesses below. -/

/-- ★ the general form of the switches other than NORMALIZE_REPR (which is off): if the new flags normalise
    each text to `φ` of what the old flags gave, and `φ` preserves the wildcard relation on the pair
    at hand, a match stays a match -/
theorem mono_of_map {f f' : Flags} (hnr : f.normRepr = false) (hnr' : f'.normRepr = false)
    (he : f.ellipsis = true → f'.ellipsis = true) (φ : Str → Str)
    (hn : ∀ b s, norm1 f' b s = φ (norm1 f b s))
    {g w : Str}
    (hφ : f.ellipsis = true → ellipsisMatch (norm1 f false g) (norm1 f true w) = true →
      ellipsisMatch (φ (norm1 f false g)) (φ (norm1 f true w)) = true)
    (h : checkOutput f g w = true) : checkOutput f' g w = true := by
  refine checkOutput_mono h fun hm => ?_
  simp only [normalize, hnr, hnr', Bool.false_eq_true, ↓reduceIte, hn] at hm ⊢
  exact checkMatch_map he φ hφ hm

/-- ★ ELLIPSIS (guard: NORMALIZE_REPR off) -/
theorem mono_ellipsis (f : Flags) (g w : Str) (hnr : f.normRepr = false)
    (h : checkOutput { f with ellipsis := false } g w = true) :
    checkOutput { f with ellipsis := true } g w = true :=
  mono_of_map (f := { f with ellipsis := false }) (f' := { f with ellipsis := true }) hnr hnr
    (fun _ => rfl) id (fun _ _ => rfl) (fun he => by cases he) h

/-- ★ "collapse respects the piece decomposition": the wildcard relation survives collapsing the
    whitespace runs of both texts, for ALL strings (no guard). -/
theorem ellipsisMatch_collapse (a b : Str) (h : ellipsisMatch a b = true) :
    ellipsisMatch (collapse a) (collapse b) = true :=
  Re.ellipsisMatch_collapse h

/-- ★ the wildcard relation survives deleting all whitespace from both texts, provided that
    deleting whitespace maps the pieces of the want one by one (otherwise false: K-C05-d). -/
theorem ellipsisMatch_deleteWs (a b : Str)
    (hg : splitEllipsis (deleteWs b) = (splitEllipsis b).map deleteWs)
    (h : ellipsisMatch a b = true) :
    ellipsisMatch (deleteWs a) (deleteWs b) = true :=
  ellipsisMatch_map deleteWs hg
    (fun _ _ _ mid hm => ⟨deleteWs mid, by rw [deleteWs_append, deleteWs_append], hm.deleteWs⟩) h

/-- ★ NORMALIZE_WHITESPACE (guard: NORMALIZE_REPR off only; ELLIPSIS on or off).
    With NORMALIZE_REPR on the sentence is false (K-C05-a). -/
theorem mono_normalize_whitespace (f : Flags) (g w : Str) (hnr : f.normRepr = false)
    (h : checkOutput { f with normWs := false } g w = true) :
    checkOutput { f with normWs := true } g w = true := by
  by_cases hi : f.ignWs = false
  · -- the new normal forms are the old ones collapsed
    exact mono_of_map (f := { f with normWs := false }) (f' := { f with normWs := true }) hnr hnr id
      collapse (fun b s => by simp [norm1, wsNorm, hi]) (fun _ => ellipsisMatch_collapse _ _) h
  · -- IGNORE_WHITESPACE collapses anyway: same normal forms
    exact mono_of_map (f := { f with normWs := false }) (f' := { f with normWs := true }) hnr hnr id
      id (fun b s => by simp [norm1, wsNorm, hi]) (fun _ => id) h

/-- ★ IGNORE_WHITESPACE (guard: NORMALIZE_REPR off, and ELLIPSIS off or deleting whitespace does
    not create, destroy or move an ellipsis separator of the collapsed, base-normalised want).
    Without the second guard the sentence is false (K-C05-d). -/
theorem mono_ignore_whitespace (f : Flags) (g w : Str) (hnr : f.normRepr = false)
    (hg : f.ellipsis = false ∨
      splitEllipsis (deleteWs (collapse (baseNorm (!f.noBlank) w))) =
        (splitEllipsis (collapse (baseNorm (!f.noBlank) w))).map deleteWs)
    (h : checkOutput { f with ignWs := false } g w = true) :
    checkOutput { f with ignWs := true } g w = true := by
  have hg' : f.ellipsis = true → splitEllipsis (deleteWs (collapse (baseNorm (!f.noBlank) w))) =
      (splitEllipsis (collapse (baseNorm (!f.noBlank) w))).map deleteWs :=
    fun he => hg.resolve_left (by simp [he])
  by_cases hn : f.normWs = false
  · -- the new normal forms are the old ones collapsed, then stripped of whitespace
    refine mono_of_map (f := { f with ignWs := false }) (f' := { f with ignWs := true }) hnr hnr id
      (deleteWs ∘ collapse) (fun b s => by simp [norm1, wsNorm, hn])
      (fun he hm => ellipsisMatch_deleteWs _ _ ?_ (ellipsisMatch_collapse _ _ hm)) h
    simpa [norm1, wsNorm, hn] using hg' he
  · -- the old normal forms are collapsed already
    refine mono_of_map (f := { f with ignWs := false }) (f' := { f with ignWs := true }) hnr hnr id
      deleteWs (fun b s => by simp [norm1, wsNorm, hn])
      (fun he hm => ellipsisMatch_deleteWs _ _ ?_ hm) h
    simpa [norm1, wsNorm, hn] using hg' he

/-- ◐ NORMALIZE_WHITESPACE (guard: NORMALIZE_REPR off and ELLIPSIS off): a special case of
    `mono_normalize_whitespace` (the ELLIPSIS guard is not needed). -/
theorem mono_normalize_whitespace_partial (f : Flags) (g w : Str) (hnr : f.normRepr = false)
    (he : f.ellipsis = false)
    (h : checkOutput { f with normWs := false } g w = true) :
    checkOutput { f with normWs := true } g w = true :=
  mono_normalize_whitespace f g w hnr h

/-- ◐ IGNORE_WHITESPACE (guard: NORMALIZE_REPR off and ELLIPSIS off): the first alternative of the
    guard of `mono_ignore_whitespace`. With ELLIPSIS on the sentence is false in class K-C05-d. -/
theorem mono_ignore_whitespace_partial (f : Flags) (g w : Str) (hnr : f.normRepr = false)
    (he : f.ellipsis = false)
    (h : checkOutput { f with ignWs := false } g w = true) :
    checkOutput { f with ignWs := true } g w = true :=
  mono_ignore_whitespace f g w hnr (Or.inl he) h

/-- the guard of `mono_ignore_whitespace` in the form of DESIGN.md (`deleteWs ∘ collapse = deleteWs`) -/
theorem ignWs_guard_iff (w : Str) :
    splitEllipsis (deleteWs (collapse w)) = (splitEllipsis (collapse w)).map deleteWs ↔
    splitEllipsis (deleteWs w) = (splitEllipsis (collapse w)).map deleteWs := by
  rw [deleteWs_collapse]

/-! non-vacuity of `ellipsisMatch_collapse`, `ellipsisMatch_deleteWs`, `mono_normalize_whitespace` and
    `mono_ignore_whitespace`: concrete instances of their hypotheses (and of the
    conclusions they yield), ELLIPSIS on, whitespace inside and around the pieces -/
example : ellipsisMatch "a \n x  b \t c ".toList "a  ...  b \t c ".toList = true := by decide_lits
example : ellipsisMatch (collapse "a \n x  b \t c ".toList) (collapse "a  ...  b \t c ".toList) = true := by
  decide_lits
example : splitEllipsis (deleteWs "a ... b c ...".toList) = (splitEllipsis "a ... b c ...".toList).map deleteWs ∧
    ellipsisMatch "a q\tb c\n".toList "a ... b c ...".toList = true := by decide_lits
example : ellipsisMatch (deleteWs "a q\tb c\n".toList) (deleteWs "a ... b c ...".toList) = true := by
  decide_lits
example :
    checkOutput { ellipsis := true, normWs := false, ignWs := false, normRepr := false, noBlank := false }
      "x  1\n  y  z".toList "x ...\n  y  z".toList = true ∧
    checkOutput { ellipsis := true, normWs := true, ignWs := false, normRepr := false, noBlank := false }
      "x  1\n  y  z".toList "x ...\n  y  z".toList = true := by decide_lits
example :
    let f : Flags := { ellipsis := true, normWs := false, ignWs := false, normRepr := false, noBlank := false }
    let w := "a ... b  c".toList
    splitEllipsis (deleteWs (collapse (baseNorm (!f.noBlank) w))) =
        (splitEllipsis (collapse (baseNorm (!f.noBlank) w))).map deleteWs ∧
    checkOutput { f with ignWs := false } "a  q b  c".toList w = true ∧
    checkOutput { f with ignWs := true } "a  q b  c".toList w = true := by decide_lits
/-- the guard of `mono_ignore_whitespace` is what excludes K-C05-d -/
example :
    splitEllipsis (deleteWs (collapse (baseNorm true ".\t...".toList))) ≠
      (splitEllipsis (collapse (baseNorm true ".\t...".toList))).map deleteWs := by decide_lits

/-- ★ NORMALIZE_REPR, no guard: for ALL got/want and ALL settings of the other switches
    (ELLIPSIS on included). A pair that matches without the quote step is left untouched by both
    `norm_repr` calls: the first returns got because it already matches; the second (roles swapped,
    got is the pattern) cannot strip the want's quotes, because a got that matches the want starts
    with at least as many quotes as the want, and an unquoted want would need even fewer
    (`normReprStep_of_rev_match`). -/
theorem mono_normalize_repr (f : Flags) (g w : Str)
    (h : checkOutput { f with normRepr := false } g w = true) :
    checkOutput { f with normRepr := true } g w = true := by
  refine checkOutput_mono h fun hm => ?_
  simp only [normalize, Bool.false_eq_true, ↓reduceIte] at hm ⊢
  exact nrCore_of_match _ hm

/-- ◐ NORMALIZE_REPR (guard: ELLIPSIS off): a special case of `mono_normalize_repr`, which needs
    no guard. -/
theorem mono_normalize_repr_partial (f : Flags) (g w : Str) (he : f.ellipsis = false)
    (h : checkOutput { f with normRepr := false } g w = true) :
    checkOutput { f with normRepr := true } g w = true :=
  mono_normalize_repr f g w h

/-- non-vacuity of `mono_normalize_repr` with ELLIPSIS on, quotes at both ends of the want and a
    got that the want matches only through the wildcard -/
example :
    checkOutput { ellipsis := true, normWs := false, ignWs := false, normRepr := false, noBlank := false }
      "'a b c'".toList "'a ... c'".toList = true ∧
    checkOutput { ellipsis := true, normWs := false, ignWs := false, normRepr := true, noBlank := false }
      "'a b c'".toList "'a ... c'".toList = true := by decide_lits

/-- guard of ELLIPSIS-monotonicity under NORMALIZE_REPR: the normalised want is not a quoted copy
    of the normalised got that the got, read as a pattern, matches. (In that situation the second
    `norm_repr` call sees a match of the quoted want against the got-as-pattern, keeps the quotes,
    and the final comparison of the got against the quoted want fails: K-C05-c.) -/
def EllipsisNrGuard (f : Flags) (g w : Str) : Prop :=
  ∀ q, (q = '"' ∨ q = '\'') → unquote? q (norm1 f true w) = some (norm1 f false g) →
    ellipsisMatch (norm1 f true w) (norm1 f false g) = false

/-- ★ ELLIPSIS (guard: NORMALIZE_REPR off, or `EllipsisNrGuard`), for all got/want and all settings
    of the other switches. The guard is exact: `mono_ellipsis_nr_guard_exact`. -/
theorem mono_ellipsis_nr_guarded (f : Flags) (g w : Str)
    (hg : f.normRepr = false ∨ EllipsisNrGuard f g w)
    (h : checkOutput { f with ellipsis := false } g w = true) :
    checkOutput { f with ellipsis := true } g w = true := by
  by_cases hnr : f.normRepr = false
  · exact mono_ellipsis f g w hnr h
  refine checkOutput_mono h fun hm => ?_
  simp only [normalize, hnr, ↓reduceIte] at hm ⊢
  exact nrCore_mono_ellipsis _ _ rfl _ _ (hg.resolve_left hnr) hm

theorem ellipsisNrGuard_of_got_no_dots (f : Flags) (g w : Str)
    (h : contains dots (norm1 f false g) = false) : EllipsisNrGuard f g w := by
  intro q _ hu
  cases hm : ellipsisMatch (norm1 f true w) (norm1 f false g) with
  | false => rfl
  | true => exact absurd ((ellipsisMatch_no_dots h).mp hm) (unquote?_ne hu)

theorem ellipsisNrGuard_of_want_unquoted (f : Flags) (g w : Str)
    (h1 : unquote? '"' (norm1 f true w) = none) (h2 : unquote? '\'' (norm1 f true w) = none) :
    EllipsisNrGuard f g w := by
  intro q hq hu
  rcases hq with rfl | rfl
  · rw [h1] at hu; cases hu
  · rw [h2] at hu; cases hu

/-- ★ ELLIPSIS under NORMALIZE_REPR when the normalised got contains no `...` (the class K-C05-c
    is exactly excluded: there got is `...`) -/
theorem mono_ellipsis_nr_got_no_dots (f : Flags) (g w : Str)
    (hd : contains dots (norm1 f false g) = false)
    (h : checkOutput { f with ellipsis := false } g w = true) :
    checkOutput { f with ellipsis := true } g w = true :=
  mono_ellipsis_nr_guarded f g w (Or.inr (ellipsisNrGuard_of_got_no_dots f g w hd)) h

/-- ★ exactness of `EllipsisNrGuard`: when it is violated (the normalised want is the normalised
    got in quotes and the got-as-pattern matches it) and the escape route is closed (with ELLIPSIS
    on, neither the got nor its unquoted version matches the want), the pair matches with ELLIPSIS
    off and does not match with ELLIPSIS on. -/
theorem mono_ellipsis_nr_guard_exact (f : Flags) (g w : Str) (hnr : f.normRepr = true)
    (hw : w ≠ []) (hgw : g ≠ w) {q : Char} (hq : q = '"' ∨ q = '\'')
    (hu : unquote? q (norm1 f true w) = some (norm1 f false g))
    (hm : ellipsisMatch (norm1 f true w) (norm1 f false g) = true)
    (hn : checkMatch { f with ellipsis := true }
      (normReprStep { f with ellipsis := true } (norm1 f false g) (norm1 f true w)) (norm1 f true w) = false) :
    checkOutput { f with ellipsis := false } g w = true ∧
    checkOutput { f with ellipsis := true } g w = false := by
  -- both comparisons are `nrCore` on the same normal forms (`checkOutput_nr_on`); what the quote step
  -- does to this pair with ELLIPSIS off and on is `nrCore_ellipsis_fail`
  have key := nrCore_ellipsis_fail { f with ellipsis := false } { f with ellipsis := true }
    rfl rfl _ _ hq hu hm hn
  rw [← Bool.not_eq_true, checkOutput_nr_on { f with ellipsis := false } hnr,
    checkOutput_nr_on { f with ellipsis := true } hnr]
  simp only [hw, hgw, false_or, Bool.not_eq_true]; exact key

/-! non-vacuity of the guarded ELLIPSIS theorems: instances with NORMALIZE_REPR on where the
    hypotheses hold, and the instance of the exactness theorem -/
example :
    let f : Flags := { ellipsis := false, normWs := false, ignWs := false, normRepr := true, noBlank := false }
    contains dots (norm1 f false "x = 1".toList) = false ∧
    checkOutput { f with ellipsis := false } "x = 1".toList "'x = 1'".toList = true ∧
    checkOutput { f with ellipsis := true } "x = 1".toList "'x = 1'".toList = true := by decide_lits
example :
    let f : Flags := { ellipsis := false, normWs := false, ignWs := false, normRepr := true, noBlank := false }
    unquote? '"' (norm1 f true "[...]".toList) = none ∧ unquote? '\'' (norm1 f true "[...]".toList) = none ∧
    checkOutput { f with ellipsis := false } "'[...]'".toList "[...]".toList = true ∧
    checkOutput { f with ellipsis := true } "'[...]'".toList "[...]".toList = true := by decide_lits
example :
    let f : Flags := { ellipsis := false, normWs := false, ignWs := false, normRepr := true, noBlank := false }
    unquote? '\'' (norm1 f true "'...'".toList) = some (norm1 f false "...".toList) ∧
    ellipsisMatch (norm1 f true "'...'".toList) (norm1 f false "...".toList) = true ∧
    checkMatch { f with ellipsis := true }
      (normReprStep { f with ellipsis := true } (norm1 f false "...".toList) (norm1 f true "'...'".toList))
      (norm1 f true "'...'".toList) = false := by decide_lits

def mono_full_statement : Prop :=
  ∀ (f : Flags) (g w : Str),
    (checkOutput { f with ellipsis := false } g w = true → checkOutput { f with ellipsis := true } g w = true) ∧
    (checkOutput { f with normWs := false } g w = true → checkOutput { f with normWs := true } g w = true) ∧
    (checkOutput { f with ignWs := false } g w = true → checkOutput { f with ignWs := true } g w = true) ∧
    (checkOutput { f with normRepr := false } g w = true → checkOutput { f with normRepr := true } g w = true) ∧
    (checkOutput { f with noBlank := true } g w = true → checkOutput { f with noBlank := false } g w = true)

/-- K-C05-a : got `" a"`, want `"' a'"`, NORMALIZE_REPR on: NORMALIZE_WHITESPACE off matches, on does not -/
theorem witness_K_C05_a :
    checkOutput { ellipsis := false, normWs := false, ignWs := false, normRepr := true, noBlank := false }
      " a".toList "' a'".toList = true ∧
    checkOutput { ellipsis := false, normWs := true, ignWs := false, normRepr := true, noBlank := false }
      " a".toList "' a'".toList = false := by decide_lits

/-- K-C05-b : got `"."`, want `"<BLANKLINE>\r."`: strict mode matches, accepting mode does not -/
theorem witness_K_C05_b :
    checkOutput { ellipsis := false, normWs := false, ignWs := false, normRepr := false, noBlank := true }
      ".".toList "<BLANKLINE>\r.".toList = true ∧
    checkOutput { ellipsis := false, normWs := false, ignWs := false, normRepr := false, noBlank := false }
      ".".toList "<BLANKLINE>\r.".toList = false := by decide_lits

/-- K-C05-c : got `"\n\n..."`, want `"'...'"`, IGNORE_WHITESPACE + NORMALIZE_REPR: ELLIPSIS off matches, on does not -/
theorem witness_K_C05_c :
    checkOutput { ellipsis := false, normWs := false, ignWs := true, normRepr := true, noBlank := false }
      "\n\n...".toList "'...'".toList = true ∧
    checkOutput { ellipsis := true, normWs := false, ignWs := true, normRepr := true, noBlank := false }
      "\n\n...".toList "'...'".toList = false := by decide_lits

/-- K-C05-d : got `"\t...a"`, want `".\t..."`, ELLIPSIS + NORMALIZE_WHITESPACE matches, adding IGNORE_WHITESPACE does not -/
theorem witness_K_C05_d :
    checkOutput { ellipsis := true, normWs := true, ignWs := false, normRepr := false, noBlank := false }
      "\t...a".toList ".\t...".toList = true ∧
    checkOutput { ellipsis := true, normWs := true, ignWs := true, normRepr := false, noBlank := false }
      "\t...a".toList ".\t...".toList = false := by decide_lits

/-- K-C05-c, minimal form : got `"..."`, want `"'...'"`, NORMALIZE_REPR alone: ELLIPSIS off matches
    (the want's quotes are stripped), on does not (the quoted want matches the got-as-pattern, so the
    quotes stay). No whitespace switch is involved. -/
theorem witness_K_C05_c_min :
    checkOutput { ellipsis := false, normWs := false, ignWs := false, normRepr := true, noBlank := false }
      "...".toList "'...'".toList = true ∧
    checkOutput { ellipsis := true, normWs := false, ignWs := false, normRepr := true, noBlank := false }
      "...".toList "'...'".toList = false := by decide_lits

/-- K-C05-c, got with a quote : got `"'..."`, want `"''...'"`: the got is not surrounded by quotes
    and still the class occurs, so no guard on the quotes of the got alone can work; the guard has
    to speak about the want being a quoted copy of the got (`EllipsisNrGuard`) or about `...` in
    the got. -/
theorem witness_K_C05_c_quote :
    checkOutput { ellipsis := false, normWs := false, ignWs := false, normRepr := true, noBlank := false }
      "'...".toList "''...'".toList = true ∧
    checkOutput { ellipsis := true, normWs := false, ignWs := false, normRepr := true, noBlank := false }
      "'...".toList "''...'".toList = false := by decide_lits

/-- K-C05-c, no `...` in the raw got : got `". . ."`, want `"'. . .'"`, IGNORE_WHITESPACE +
    NORMALIZE_REPR: the `...` of the normalised got is created by deleting whitespace, so the
    guard must speak about the normalised got (as `mono_ellipsis_nr_got_no_dots` does). -/
theorem witness_K_C05_c_ws :
    checkOutput { ellipsis := false, normWs := false, ignWs := true, normRepr := true, noBlank := false }
      ". . .".toList "'. . .'".toList = true ∧
    checkOutput { ellipsis := true, normWs := false, ignWs := true, normRepr := true, noBlank := false }
      ". . .".toList "'. . .'".toList = false := by decide_lits

/-- the unguarded sentence is false of the model (and of the code: the witnesses are replayed on
    the implementation by every run of the check) -/
theorem mono_full_false : ¬ mono_full_statement := by
  intro h
  have := (h { ellipsis := false, normWs := false, ignWs := false, normRepr := true, noBlank := false }
    " a".toList "' a'".toList).2.1
  have w := witness_K_C05_a
  rw [this w.1] at w
  exact absurd w.2 (by simp)

example : checkOutput defaultFlags "u'a'  \n".toList "'a'".toList = true := by decide_lits
example : checkOutput strictFlags "a \n".toList "a".toList = true := by decide_lits
example : checkOutput strictFlags "a b".toList "a  b".toList = false := by decide_lits
example : contains dots (norm1 defaultFlags true "a b".toList) = false := by decide_lits

end Xdoc.C05
