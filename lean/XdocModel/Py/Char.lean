/-!
# Python character classes on Unicode scalar values, and the evaluation of test vectors

The character tables are hand-written and compared with the running interpreter on every scalar value by
`harness/corr/tables.py` on every check run (so they are *checked*, not trusted).

The two tactics below are for closed goals that mention string literals. The kernel evaluates
`"…".toList` by decoding the UTF-8 bytes of the literal, some twenty thousand heartbeats per character,
more than everything else in most test vectors. `String.toList_ofList` replaces a literal by the list of
its characters without decoding anything (the kernel compares a literal with `String.ofList l` directly).
-/

/-- `decide +kernel` after rewriting the string literals of the goal. For goals headed by `=`, `∧`, …;
under a `match` or `if` the kernel would evaluate both sides of the rewrite. -/
macro "decide_lits" : tactic => `(tactic| ((repeat rw [String.toList_ofList]); decide +kernel))

/-- `expose_lits c ds*` replaces the constant `c` in the goal by its value, with `ds` unfolded in it as
well and every string literal as a list of characters. It goes through an equation `c = x` and a
substitution, so that the kernel never compares the goal before with the goal after; this also works
under a `match`. -/
macro "expose_lits" c:ident ds:(colGt ident)* : tactic =>
  `(tactic| (generalize h : $c = x; unfold $c $ds* at h; (repeat rw [String.toList_ofList] at h); subst h))

namespace Xdoc

abbrev Str := List Char

namespace Py

/-- Python `str.isspace` on one code point == regex `\s` (str pattern) : 29 code points. -/
def isSpace (c : Char) : Bool :=
  let n := c.toNat
  (0x09 ≤ n && n ≤ 0x0D) || (0x1C ≤ n && n ≤ 0x20) || n == 0x85 || n == 0xA0 || n == 0x1680 ||
  (0x2000 ≤ n && n ≤ 0x200A) || n == 0x2028 || n == 0x2029 || n == 0x202F || n == 0x205F ||
  n == 0x3000

/-- characters at which `str.splitlines` breaks a line (besides the pair `\r\n`). -/
def isLineBreak (c : Char) : Bool :=
  let n := c.toNat
  n == 0x0A || n == 0x0B || n == 0x0C || n == 0x0D || n == 0x1C || n == 0x1D || n == 0x1E ||
  n == 0x85 || n == 0x2028 || n == 0x2029

/-- `[ \t]` -/
def isBlank (c : Char) : Bool := c == ' ' || c == '\t'

def isQuote (c : Char) : Bool := c == '\'' || c == '"'

/-- ASCII part of `\w`; the non-ASCII part comes from `Generated.wordRanges`. -/
def isAsciiWord (c : Char) : Bool :=
  let n := c.toNat
  (0x30 ≤ n && n ≤ 0x39) || (0x41 ≤ n && n ≤ 0x5A) || (0x61 ≤ n && n ≤ 0x7A) || n == 0x5F

def inRanges (rs : List (Nat × Nat)) (n : Nat) : Bool :=
  rs.any fun (lo, hi) => lo ≤ n && n ≤ hi

/- The elaborator's `whnf` runs away on these comparisons against large literals when a
   definition that uses them is compiled by the equation compiler; the predicates are therefore
   irreducible for the elaborator (unfold them explicitly with `unfold`/`simp [isSpace]`).
   The kernel ignores the attribute: concrete witnesses are proved with `decide +kernel`. -/
attribute [irreducible] isSpace isLineBreak isAsciiWord

theorem isLineBreak_isSpace {c : Char} (h : isLineBreak c = true) : isSpace c = true := by
  unfold isLineBreak at h; unfold isSpace
  generalize c.toNat = n at h ⊢
  simp only [Bool.or_eq_true, beq_iff_eq, or_assoc] at h
  rcases h with rfl | rfl | rfl | rfl | rfl | rfl | rfl | rfl | rfl | rfl <;> decide

theorem isBlank_isSpace {c : Char} (h : isBlank c = true) : isSpace c = true := by
  simp only [isBlank, Bool.or_eq_true, beq_iff_eq] at h
  rcases h with rfl | rfl <;> decide +kernel

end Py
end Xdoc
